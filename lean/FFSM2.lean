import FFSM2.Gen.Consts
import FFSM2.BitStream
import FFSM2.Lemmas.ListAux
import FFSM2.Lemmas.Ancestors
import FFSM2.Lemmas.BitStream
import FFSM2.Props.C13
import FFSM2.BitArray
import FFSM2.Arrays
import FFSM2.Lemmas.BitArray
import FFSM2.Props.C20
import FFSM2.Dispatch
import FFSM2.Ancestors
import FFSM2.Props.C15
import FFSM2.Props.C14
import FFSM2.TaskList
import FFSM2.PlanList
import FFSM2.Machine
import FFSM2.Lemmas.Machine
import FFSM2.Lemmas.Blocks
import FFSM2.Lemmas.Sim
import FFSM2.Lemmas.Effect
import FFSM2.Lemmas.SimWorld
import FFSM2.Lemmas.Lifecycle
import FFSM2.Lemmas.Processing
import FFSM2.Lemmas.Steps
import FFSM2.Lemmas.AllCb
import FFSM2.Lemmas.Blind
import FFSM2.Props.C02
import FFSM2.Props.C03
import FFSM2.Props.C04
import FFSM2.Lemmas.OwnSig
import FFSM2.Props.C05
import FFSM2.Props.C11
import FFSM2.Props.C01
import FFSM2.Props.C12
import FFSM2.Props.C08
import FFSM2.Props.C09
import FFSM2.Props.C06
import FFSM2.Props.C07
import FFSM2.Props.C17
import FFSM2.Props.C16
import FFSM2.Props.C19
import FFSM2.Lemmas.TaskList
import FFSM2.Lemmas.PlanList
import FFSM2.Props.C10
import FFSM2.Layout
import FFSM2.Props.C18
import FFSM2.Lemmas.AllEv
import FFSM2.Lemmas.Keeps
import FFSM2.Lemmas.World
import FFSM2.Lemmas.Reach
import FFSM2.Lemmas.GuardCount
import FFSM2.Lemmas.NoPlan
import FFSM2.Lemmas.PrevInv
import FFSM2.Lemmas.Prov
import FFSM2.Lemmas.ProvWorld
import FFSM2.Lemmas.CancelTrack
import FFSM2.Lemmas.Relabel
import FFSM2.Props.History
import FFSM2.Props.GuardHistory
import FFSM2.Props.PrevHistory
import FFSM2.Props.ProvenanceHistory
import FFSM2.Lemmas.PlanTrace
import FFSM2.Lemmas.PlanStep
import FFSM2.Props.PlanHistory
import FFSM2.Props.CycleHistory
import FFSM2.Props.OutcomeHistory
import FFSM2.Lemmas.Records
import FFSM2.Props.RecordsHistory
import FFSM2.Props.OutcomesHistory
import FFSM2.Props.DispatchHistory
import FFSM2.Lemmas.ActRecords
import FFSM2.Props.ActRecordsHistory
import FFSM2.Lemmas.LayerBlocks
import FFSM2.Props.LayersHistory
import FFSM2.Props.VetoHistory
import FFSM2.Lemmas.ReqView
import FFSM2.Props.RequestViewHistory
import FFSM2.Props.SerialHistory
import FFSM2.Props.Resets
import FFSM2.Props.ConsumeHistory
import FFSM2.Lemmas.HBlind
import FFSM2.Props.NeutralHistory
import FFSM2.Lemmas.SBlind
import FFSM2.Lemmas.PBlind
import FFSM2.Lemmas.LBlind
import FFSM2.Props.StreamReach
import FFSM2.Props.BlankHistory
