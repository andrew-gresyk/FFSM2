import FFSM2.TaskList
import FFSM2.Lemmas.ListAux
/-! Representation invariant of `TaskListT` (free list threaded through the `next` union) and the
    specification of `emplace` / `remove` / `clear` under it (C10). -/
namespace FFSM2
namespace TaskList

/-- number of slots ever touched: the frontier slot `last` is the tail of the free chain while `last < cap` -/
def bound (s : TL) : Nat := if s.last < s.cap then s.last + 1 else s.cap

/-- the free chain: consecutive free nodes are linked through `.b` (`next`) -/
def Chain (items : List Item) : List Nat → Prop
  | [] => True
  | [_] => True
  | x :: y :: rest => (at' items x).b = y ∧ Chain items (y :: rest)

/-- representation invariant, with the ghost list `vac` of free slots in chain order -/
structure Inv (s : TL) (vac : List Nat) : Prop where
  capPos : 1 ≤ s.cap
  capLe : s.cap ≤ 255
  len : s.items.length = s.cap
  lastLe : s.last ≤ s.cap
  nodup : vac.Nodup
  inBound : ∀ x ∈ vac, x < bound s
  cnt : s.count + vac.length = bound s
  chain : Chain s.items vac
  headEq : vac.head? = if s.count < s.cap then some s.head else none
  tailEq : vac.getLast? = if s.count < s.cap then some s.tail else none
  full : s.count = s.cap → s.head = 255 ∧ s.tail = 255 ∧ s.last = s.cap
  frontier : s.last < s.cap → s.tail = s.last

/-- slot `i` holds a task -/
def Occ (s : TL) (vac : List Nat) (i : Nat) : Prop := i < bound s ∧ i ∉ vac

theorem bound_le_cap (s : TL) : bound s ≤ s.cap := by
  unfold bound; split
  · assumption
  · exact Nat.le_refl _

theorem bound_of_lt {s : TL} (h : s.last < s.cap) : bound s = s.last + 1 := if_pos h

theorem at'_set_ne (items : List Item) {k j : Nat} (x : Item) (h : k ≠ j) : at' (items.set k x) j = at' items j :=
  getD_set_ne items x _ h

theorem at'_set_self (items : List Item) {k : Nat} (x : Item) (h : k < items.length) : at' (items.set k x) k = x :=
  getD_set_self items x _ h

theorem at'_setA_ne (items : List Item) {k j : Nat} (v : Nat) (h : k ≠ j) : at' (setA items k v) j = at' items j :=
  at'_set_ne items _ h

theorem at'_setAB_ne (items : List Item) {k j : Nat} (va vb : Nat) (h : k ≠ j) :
    at' (setAB items k va vb) j = at' items j :=
  at'_set_ne items _ h

theorem at'_setAB_self (items : List Item) {k : Nat} (va vb : Nat) (h : k < items.length) :
    at' (setAB items k va vb) k = { at' items k with a := va, b := vb } :=
  at'_set_self items _ h

theorem at'_setA_b (items : List Item) (k v j : Nat) : (at' (setA items k v) j).b = (at' items j).b := by
  unfold setA at'; rw [getD_set]; split
  · rename_i h; rw [h.1]
  · rfl

theorem length_setA (items : List Item) (k v : Nat) : (setA items k v).length = items.length := List.length_set
theorem length_setAB (items : List Item) (k a b : Nat) : (setAB items k a b).length = items.length := List.length_set

theorem chain_congr {items items' : List Item} {l : List Nat}
    (h : ∀ x ∈ l, (at' items' x).b = (at' items x).b) (hc : Chain items l) : Chain items' l := by
  induction l with
  | nil => trivial
  | cons x r ih =>
    cases r with
    | nil => trivial
    | cons y r' =>
      exact ⟨(h x List.mem_cons_self).trans hc.1, ih (fun z hz => h z (List.mem_cons_of_mem _ hz)) hc.2⟩

theorem Occ.ne {s : TL} {vac : List Nat} {i x : Nat} (h : Occ s vac i) (hx : x ∈ vac) : x ≠ i :=
  ne_of_mem_of_not_mem hx h.2

theorem occ_cons_iff {s s' : TL} {vac : List Nat} {i j : Nat} (hb : bound s' = bound s) :
    Occ s' (i :: vac) j ↔ Occ s vac j ∧ j ≠ i := by
  unfold Occ; rw [hb, List.mem_cons, not_or]
  exact ⟨fun ⟨h1, h2, h3⟩ => ⟨⟨h1, h3⟩, h2⟩, fun ⟨⟨h1, h3⟩, h2⟩ => ⟨h1, h2, h3⟩⟩

theorem occ_tail_iff {s s' : TL} {vac : List Nat} {i j : Nat} (hb : bound s' = bound s) (hi : i < bound s)
    (hn : i ∉ vac) : Occ s' vac j ↔ j = i ∨ Occ s (i :: vac) j := by
  rw [occ_cons_iff rfl, Occ, hb]
  constructor
  · intro h
    by_cases e : j = i
    · exact .inl e
    · exact .inr ⟨h, e⟩
  · rintro (rfl | h)
    · exact ⟨hi, hn⟩
    · exact h.1

theorem occ_grow_iff {s s' : TL} {vac : List Nat} {b j : Nat} (hb : bound s = b) (hb' : bound s' = b + 1) :
    Occ s' (b :: vac) j ↔ Occ s vac j := by
  unfold Occ; rw [hb, hb', List.mem_cons, not_or]
  exact ⟨fun ⟨h1, h2, h3⟩ => ⟨Nat.lt_of_le_of_ne (Nat.le_of_lt_succ h1) h2, h3⟩,
    fun ⟨h1, h3⟩ => ⟨Nat.lt_succ_of_lt h1, Nat.ne_of_lt h1, h3⟩⟩

namespace Inv
section
variable {s : TL} {vac : List Nat} (h : Inv s vac)
include h

theorem getLast?_eq (hc : s.count < s.cap) : vac.getLast? = some s.tail := h.tailEq.trans (if_pos hc)

theorem vac_eq_nil (hc : ¬ s.count < s.cap) : vac = [] :=
  List.head?_eq_none_iff.mp (h.headEq.trans (if_neg hc))

theorem last_eq_cap (hc : ¬ s.count < s.cap) : s.last = s.cap := by
  have hle : s.count ≤ s.cap := Nat.le_trans (Nat.le_add_right ..) (h.cnt ▸ bound_le_cap s)
  exact (h.full (Nat.le_antisymm hle (Nat.not_lt.mp hc))).2.2

theorem vac_eq_cons (hc : s.count < s.cap) : ∃ rest, vac = s.head :: rest :=
  List.head?_eq_some_iff.mp (h.headEq.trans (if_pos hc))

theorem head_mem (hc : s.count < s.cap) : s.head ∈ vac := by
  obtain ⟨rest, rfl⟩ := h.vac_eq_cons hc
  exact List.mem_cons_self

theorem head_lt (hc : s.count < s.cap) : s.head < s.cap :=
  Nat.lt_of_lt_of_le (h.inBound _ (h.head_mem hc)) (bound_le_cap s)

/-- `head = tail` below capacity: one free slot -/
theorem vac_eq_singleton (hc : s.count < s.cap) (he : s.head = s.tail) : vac = [s.head] := by
  obtain ⟨rest, rfl⟩ := h.vac_eq_cons hc
  cases rest with
  | nil => rfl
  | cons y r =>
    have hl := h.getLast?_eq hc
    rw [List.getLast?_cons_cons, ← he] at hl
    exact absurd (List.mem_of_getLast? hl) (List.nodup_cons.mp h.nodup).1

/-- `head ≠ tail`: at least two free slots, the second being `head`'s `next` -/
theorem vac_eq_cons_cons (hc : s.count < s.cap) (hne : s.head ≠ s.tail) :
    ∃ rest, vac = s.head :: (at' s.items s.head).b :: rest := by
  obtain ⟨rest, rfl⟩ := h.vac_eq_cons hc
  cases rest with
  | nil => exact absurd (Option.some.inj (h.getLast?_eq hc)) hne
  | cons y r => exact ⟨r, by rw [h.chain.1]⟩

end

/-- the invariant for a non-empty free chain: `count < cap` follows, so `full` is void -/
theorem of_cons {s : TL} {x : Nat} {l : List Nat} (capPos : 1 ≤ s.cap) (capLe : s.cap ≤ 255)
    (len : s.items.length = s.cap) (lastLe : s.last ≤ s.cap) (nodup : (x :: l).Nodup)
    (inBound : ∀ y ∈ x :: l, y < bound s) (cnt : s.count + (l.length + 1) = bound s)
    (chain : Chain s.items (x :: l)) (head : s.head = x) (tail : (x :: l).getLast? = some s.tail)
    (frontier : s.last < s.cap → s.tail = s.last) : Inv s (x :: l) :=
  have hc : s.count < s.cap :=
    Nat.lt_of_lt_of_le (cnt ▸ Nat.lt_add_of_pos_right (Nat.succ_pos _)) (bound_le_cap s)
  { capPos, capLe, len, lastLe, nodup, inBound, cnt, chain, frontier
    headEq := by rw [if_pos hc, head]; rfl
    tailEq := by rw [if_pos hc]; exact tail
    full := fun e => absurd e (Nat.ne_of_lt hc) }

end Inv

/-- `clear` needs only the static part of the invariant; `init cap` is `clear (init cap)` by `rfl` -/
theorem inv_reset {s : TL} (capPos : 1 ≤ s.cap) (capLe : s.cap ≤ 255) (len : s.items.length = s.cap) :
    Inv (clear s) [0] :=
  have hb : bound (clear s) = 0 + 1 := if_pos capPos
  .of_cons capPos capLe len (Nat.zero_le _) (List.pairwise_singleton _ _)
    (List.forall_mem_singleton.mpr (by rw [hb]; exact Nat.one_pos)) hb.symm trivial rfl rfl (fun _ => rfl)

/-- `TaskListT()` / `clear()` -/
theorem inv_init (cap : Nat) (h1 : 1 ≤ cap) (h2 : cap ≤ 255) : Inv (init cap) [0] :=
  inv_reset (s := init cap) h1 h2 List.length_replicate

theorem inv_clear {s : TL} {vac : List Nat} (h : Inv s vac) : Inv (clear s) [0] :=
  inv_reset h.capPos h.capLe h.len

theorem occ_clear (s : TL) (i : Nat) (hc : 1 ≤ s.cap) : ¬ Occ (clear s) [0] i := by
  intro ⟨h1, h2⟩
  have hb : bound (clear s) = 1 := if_pos hc
  exact h2 (List.mem_singleton.mpr (Nat.lt_one_iff.mp (hb ▸ h1)))

/-- `emplace` on a full list: returns INVALID and changes nothing -/
theorem emplace_full (s : TL) (t : Item) (h : ¬ s.count < s.cap) : emplace s t = (s, 255) := if_neg h

theorem emplace_recycle {s : TL} (t : Item) (hc : s.count < s.cap) (hne : s.head ≠ s.tail) :
    emplace s t = ({ s with head := (at' s.items s.head).b,
                            items := (setA s.items (at' s.items s.head).b 255).set s.head t,
                            count := s.count + 1 }, s.head) := by
  simp only [emplace, if_pos hc, if_pos hne]

theorem emplace_grow {s : TL} (t : Item) (hc : s.count < s.cap) (he : s.head = s.tail) (hg : s.last < s.cap - 1) :
    emplace s t = ({ s with last := s.last + 1, head := s.last + 1, tail := s.last + 1,
                            items := (setAB s.items (s.last + 1) 255 255).set s.head t,
                            count := s.count + 1 }, s.head) := by
  simp only [emplace, if_pos hc, if_neg (not_not_intro he), if_pos hg]

theorem emplace_last {s : TL} (t : Item) (hc : s.count < s.cap) (he : s.head = s.tail) (hg : ¬ s.last < s.cap - 1) :
    emplace s t = ({ s with last := s.cap, head := 255, tail := 255, items := s.items.set s.head t,
                            count := s.count + 1 }, s.head) := by
  simp only [emplace, if_pos hc, if_neg (not_not_intro he), if_neg hg]

theorem remove_notFull {s : TL} (i : Nat) (hc : s.count < s.cap) :
    remove s i = { s with items := setA (setAB s.items i 255 s.head) s.head i, head := i, count := s.count - 1 } :=
  if_pos hc

theorem remove_full {s : TL} (i : Nat) (hc : ¬ s.count < s.cap) :
    remove s i = { s with items := setAB s.items i 255 255, head := i, tail := i, count := s.count - 1 } :=
  if_neg hc

/-- `emplace` below capacity (recycle / grow / last), under the invariant -/
theorem emplace_spec {s : TL} {vac : List Nat} (h : Inv s vac) (hc : s.count < s.cap) (t : Item) :
    ∃ vac', Inv (emplace s t).1 vac' ∧ (emplace s t).2 = s.head ∧
      (emplace s t).1.count = s.count + 1 ∧ (emplace s t).1.cap = s.cap ∧
      (∀ i, Occ (emplace s t).1 vac' i ↔ i = s.head ∨ Occ s vac i) ∧
      at' (emplace s t).1.items s.head = t ∧
      (∀ i, Occ s vac i → at' (emplace s t).1.items i = at' s.items i) := by
  have hmem := h.head_mem hc
  have hlen : s.head < s.items.length := h.len ▸ h.head_lt hc
  have hhb := h.inBound _ hmem
  by_cases he : s.head = s.tail
  · cases h.vac_eq_singleton hc he
    have hcnt : s.count + 1 = bound s := h.cnt
    by_cases hg : s.last < s.cap - 1
    · have hl1 : s.last + 1 < s.cap := Nat.add_lt_of_lt_sub hg
      have hlast : s.last < s.cap := Nat.lt_of_succ_lt hl1
      have hb := bound_of_lt hlast
      have hb' : bound (emplace s t).1 = s.last + 1 + 1 := by
        rw [emplace_grow t hc he hg]; exact if_pos hl1
      rw [emplace_grow t hc he hg] at hb' ⊢
      refine ⟨[s.last + 1], ?_, rfl, rfl, rfl,
        fun i => (occ_grow_iff hb hb').trans (occ_tail_iff rfl hhb List.not_mem_nil),
        at'_set_self _ _ ((length_setAB ..).symm ▸ hlen), fun i hi => ?_⟩
      · exact .of_cons h.capPos h.capLe (List.length_set.trans ((length_setAB ..).trans h.len)) (Nat.le_of_lt hl1)
          (List.pairwise_singleton _ _) (List.forall_mem_singleton.mpr (Nat.lt_of_lt_of_eq (Nat.lt_succ_self _) hb'.symm))
          ((congrArg (· + 1) (hcnt.trans hb)).trans hb'.symm) trivial rfl rfl (fun _ => rfl)
      · exact (at'_set_ne _ _ (hi.ne hmem)).trans (at'_setAB_ne _ _ _ (Nat.ne_of_gt (hb ▸ hi.1)))
    · have hb : bound s = s.cap :=
        if hl : s.last < s.cap then
          (bound_of_lt hl).trans (Nat.le_antisymm hl (Nat.sub_le_iff_le_add.mp (Nat.not_lt.mp hg)))
        else if_neg hl
      rw [emplace_last t hc he hg]
      refine ⟨[], ?_, rfl, rfl, rfl,
        fun i => occ_tail_iff ((if_neg (Nat.lt_irrefl _)).trans hb.symm) hhb List.not_mem_nil,
        at'_set_self _ _ hlen, fun i hi => at'_set_ne _ _ (hi.ne hmem)⟩
      have hc' : ¬ s.count + 1 < s.cap := by rw [hcnt, hb]; exact Nat.lt_irrefl _
      exact {
        capPos := h.capPos
        capLe := h.capLe
        len := List.length_set.trans h.len
        lastLe := Nat.le_refl _
        nodup := List.nodup_nil
        inBound := nofun
        cnt := hcnt.trans (hb.trans (if_neg (Nat.lt_irrefl _)).symm)
        chain := trivial
        headEq := (if_neg hc').symm
        tailEq := (if_neg hc').symm
        full := fun _ => ⟨rfl, rfl, rfl⟩
        frontier := fun e => absurd e (Nat.lt_irrefl _) }
  · obtain ⟨rest, rfl⟩ := h.vac_eq_cons_cons hc he
    have hnd := List.nodup_cons.mp h.nodup
    rw [emplace_recycle t hc he]
    refine ⟨_ :: rest, ?_, rfl, rfl, rfl, fun i => occ_tail_iff rfl hhb hnd.1,
      at'_set_self _ _ ((length_setA ..).symm ▸ hlen), fun i hi => ?_⟩
    · refine .of_cons h.capPos h.capLe (List.length_set.trans ((length_setA ..).trans h.len)) h.lastLe hnd.2
        (fun y hy => h.inBound y (List.mem_cons_of_mem _ hy)) ((Nat.add_right_comm ..).trans h.cnt)
        (chain_congr (fun x hx => ?_) h.chain.2) rfl
        (List.getLast?_cons_cons.symm.trans (h.getLast?_eq hc)) h.frontier
      rw [at'_set_ne _ _ (ne_of_mem_of_not_mem hx hnd.1).symm, at'_setA_b]
    · exact (at'_set_ne _ _ (hi.ne hmem)).trans (at'_setA_ne _ _ (hi.ne (List.mem_cons_of_mem _ List.mem_cons_self)))

/-- `remove(i)` of an occupied slot, under the invariant -/
theorem remove_spec {s : TL} {vac : List Nat} (h : Inv s vac) (i : Nat) (hocc : Occ s vac i) (hpos : 0 < s.count) :
    ∃ vac', Inv (remove s i) vac' ∧ (remove s i).count = s.count - 1 ∧ (remove s i).cap = s.cap ∧
      (∀ j, Occ (remove s i) vac' j ↔ (Occ s vac j ∧ j ≠ i)) ∧
      (∀ j, Occ s vac j → j ≠ i → at' (remove s i).items j = at' s.items j) := by
  have hi : i < s.items.length := h.len ▸ Nat.lt_of_lt_of_le hocc.1 (bound_le_cap s)
  have hcnt : s.count - 1 + (vac.length + 1) = bound s := by
    rw [← h.cnt, ← Nat.add_assoc, Nat.add_right_comm, Nat.sub_add_cancel hpos]
  have hnd : (i :: vac).Nodup := List.nodup_cons.mpr ⟨hocc.2, h.nodup⟩
  have hin : ∀ y ∈ i :: vac, y < bound s := List.forall_mem_cons.mpr ⟨hocc.1, h.inBound⟩
  by_cases hc : s.count < s.cap
  · rw [remove_notFull i hc]
    refine ⟨i :: vac, ?_, rfl, rfl, fun j => occ_cons_iff rfl, fun j hj hji => ?_⟩
    · obtain ⟨rest, rfl⟩ := h.vac_eq_cons hc
      refine .of_cons h.capPos h.capLe ((length_setA ..).trans ((length_setAB ..).trans h.len)) h.lastLe
        hnd hin hcnt ⟨?_, chain_congr (fun z hz => ?_) h.chain⟩ rfl
        (List.getLast?_cons_cons.trans (h.getLast?_eq hc)) h.frontier
      · rw [at'_setA_b, at'_setAB_self _ _ _ hi]
      · rw [at'_setA_b, at'_setAB_ne _ _ _ (hocc.ne hz).symm]
    · exact (at'_setA_ne _ _ (hj.ne (h.head_mem hc))).trans (at'_setAB_ne _ _ _ hji.symm)
  · rw [remove_full i hc]
    refine ⟨i :: vac, ?_, rfl, rfl, fun j => occ_cons_iff rfl, fun j _ hji => at'_setAB_ne _ _ _ hji.symm⟩
    cases h.vac_eq_nil hc
    exact .of_cons h.capPos h.capLe ((length_setAB ..).trans h.len) h.lastLe hnd hin hcnt
      trivial rfl rfl (fun e => absurd (h.last_eq_cap hc) (Nat.ne_of_lt e))

end TaskList
end FFSM2
