import FFSM2.Lemmas.Machine
/-! What a building block can emit, said once: the trace of every block above `deliver` is a concatenation of
    traces of whole deliveries `deliver env m sid cur pend` and of single non-method log records.  `Made env A es`
    is that statement for a trace, `A` saying which deliveries may occur; `Emits env A f` is it for a step.  The
    tree of blocks is walked here, once; a property of traces that holds of `[]`, of `++`, of the deliveries in
    `A` and of log records then holds of every block by induction on `Made`. -/
namespace FFSM2
open Step Ancestors

def LogRec.isMethod : LogRec → Bool
  | .method .. => true
  | _ => false

inductive Made (env : Env) (A : Method → Nat → Tr → Tr → Prop) : List Ev → Prop
  | nil : Made env A []
  | append {a b : List Ev} : Made env A a → Made env A b → Made env A (a ++ b)
  | deliver (m : Method) (sid : Nat) (cur pend : Tr) (s : St) : A m sid cur pend → Made env A (deliver env m sid cur pend s).2
  | log (c : Core) (r : LogRec) : r.isMethod = false → Made env A (logEv env c r)

/-- `Made` of every trace of a step: a judgment that composes and sees nothing of the state -/
abbrev Emits (env : Env) (A : Method → Nat → Tr → Tr → Prop) (f : Step) : Prop := Sat (fun _ es _ => Made env A es) f

variable {env : Env} {A : Method → Nat → Tr → Tr → Prop}

theorem Made.mono {B : Method → Nat → Tr → Tr → Prop} (h : ∀ m sid cur pend, A m sid cur pend → B m sid cur pend) {es : List Ev}
    (hes : Made env A es) : Made env B es := by
  induction hes with
  | nil => exact .nil
  | append _ _ iha ihb => exact .append iha ihb
  | deliver m sid cur pend s hA => exact .deliver m sid cur pend s (h _ _ _ _ hA)
  | log c r hr => exact .log c r hr

/-- a property of single events: enough to have it of the deliveries in `A` and of log records -/
theorem Made.forall {P : Ev → Prop} (hd : ∀ m sid cur pend s, A m sid cur pend → ∀ e ∈ (FFSM2.deliver env m sid cur pend s).2, P e)
    (hl : ∀ c r, LogRec.isMethod r = false → ∀ e ∈ logEv env c r, P e) {es : List Ev} (h : Made env A es) : ∀ e ∈ es, P e := by
  induction h with
  | nil => intro e he; cases he
  | append _ _ iha ihb =>
    intro e he
    rcases List.mem_append.mp he with he | he
    · exact iha e he
    · exact ihb e he
  | deliver m sid cur pend s hA => exact hd m sid cur pend s hA
  | log c r hr => exact hl c r hr

abbrev Any : Method → Nat → Tr → Tr → Prop := fun _ _ _ _ => True

theorem made_sees : Sees (fun _ : St => ()) (fun _ es _ => Made env A es) where
  nil _ := .nil
  app := .append
  silent _ := .nil

theorem unit_ignoresFlow : IgnoresFlow fun _ : St => () := fun _ _ _ _ _ _ _ _ _ _ => rfl

theorem Emits.seq {f g : Step} (hf : Emits env A f) (hg : Emits env A g) : Emits env A (f ⋙ g) := made_sees.seq hf hg
theorem emits_skip : Emits env A skip := fun _ => .nil
theorem emits_modifyCore (m : Core → Core) : Emits env A (modifyCore m) := fun _ => .nil

theorem emits_deliver {m : Method} {sid : Nat} {cur pend : Tr} (h : A m sid cur pend) : Emits env A (deliver env m sid cur pend) :=
  fun s => .deliver m sid cur pend s h

theorem emits_firePlan : ∀ (tasks : List Task) (s : St) (clr : List Nat), Made env A (firePlan env tasks s clr).2
  | [], _, _ => .nil
  | t :: ts, s, clr => by
    rw [firePlan_cons]
    cases ctlIsActive s.core t.origin
    · exact .nil
    cases getBit s.core.succ t.origin
    · exact emits_firePlan ts _ _
    · exact .append (.log _ _ rfl) (emits_firePlan ts _ _)

/-- no action emits anything but a transition, cancellation or task-status record -/
theorem emits_applyAction (sid : Nat) (a : Action) : Emits env A (applyAction env sid a) := by
  intro s
  cases a with
  | planAppend o d p => rw [applyAction_planAppend]; exact .nil
  | planClear => exact .nil
  | planRemove m => exact .nil
  | _ => exact .log _ _ rfl

theorem emits_extChange (d : Nat) (p : Option Nat) : Emits env A (extChange env d p) := fun _ => .log _ _ rfl
theorem emits_extStatus (id : Nat) (ok : Bool) : Emits env A (extStatus env id ok) := fun _ => .log _ _ rfl

/-- `A` admits the lifecycle deliveries made while `cur` is the current transition -/
def Life (A : Method → Nat → Tr → Tr → Prop) (cur : Tr) : Prop := ∀ m sid, m.isLife = true → A m sid cur {}
/-- `A` admits the guard deliveries of the round `cur`, `pend` -/
def Guards (A : Method → Nat → Tr → Tr → Prop) (cur pend : Tr) : Prop := ∀ m sid, m.isGuard = true → A m sid cur pend

theorem Method.isLife_of_plan {m : Method} (h : m.flavour = .plan) : m.isLife = true := by cases m <;> first | rfl | cases h
theorem Method.isGuard_of_guard {m : Method} (h : m.flavour = .guard) : m.isGuard = true := by cases m <;> first | rfl | cases h

theorem Life.emits {cur : Tr} (hL : Life A cur) (m : Method) (a : Nat) (hm : m.flavour = .plan) : Emits env A (deliver env m a cur {}) :=
  emits_deliver (hL m a (Method.isLife_of_plan hm))
theorem Guards.emits {cur pend : Tr} (hG : Guards A cur pend) (m : Method) (a : Nat) (hm : m.flavour = .guard) :
    Emits env A (deliver env m a cur pend) :=
  emits_deliver (hG m a (Method.isGuard_of_guard hm))

theorem emits_deepEnter {cur : Tr} (hL : Life A cur) : Emits env A (deepEnter env cur) :=
  sees_deepEnter made_sees unit_ignoresFlow.life hL.emits

theorem emits_changeToRequested {cur : Tr} (hL : Life A cur) : Emits env A (changeToRequested env cur) :=
  sees_changeToRequested made_sees unit_ignoresFlow.life hL.emits

theorem emits_guardRound {cur pend : Tr} (hG : Guards A cur pend) : Emits env A (guardRound env cur pend) :=
  sees_guardRound made_sees (fun _ _ _ => rfl) hG.emits

theorem emits_entryGuardRound {cur pend : Tr} (hG : Guards A cur pend) : Emits env A (entryGuardRound env cur pend) :=
  sees_entryGuardRound made_sees (fun _ _ _ => rfl) hG.emits

theorem emits_applySurvivor {cur : Tr} (hL : Life A cur) : Emits env A (applySurvivor env cur) :=
  sees_applySurvivor made_sees unit_ignoresFlow.life hL.emits

theorem emits_processRequest (hG : ∀ c p, Guards A c p) (hL : ∀ c, Life A c) : Emits env A (processRequest env) :=
  sees_processRequest made_sees unit_ignoresFlow (fun m a c p => (hG c p).emits m a) fun m a c => (hL c).emits m a

theorem emits_initialEnter (hG : ∀ c p, Guards A c p) (hL : ∀ c, Life A c) : Emits env A (initialEnter env) :=
  sees_initialEnter made_sees unit_ignoresFlow (fun m a c p => (hG c p).emits m a) fun m a c => (hL c).emits m a

theorem emits_finalExit (hL : Life A {}) : Emits env A (finalExit env) :=
  sees_finalExit made_sees unit_ignoresFlow.life (emits_modifyCore _) (emits_modifyCore _) (emits_modifyCore _) hL.emits

theorem emits_phase {m : Method} (hm : ∀ sid, A m sid {} {}) (hf : Bool) : Emits env A (phase env m hf) :=
  sees_phase made_sees (fun _ _ _ => rfl) (fun a => emits_deliver (hm a)) hf

/-- the plan step delivers nothing but the two outcome callbacks, to the root head -/
theorem emits_planStep (hf : A .planFailed 255 {} {}) (hs : A .planSucceeded 255 {} {}) : Emits env A (planStep env) :=
  sees_planStep made_sees (fun _ _ _ _ _ _ => rfl) (emits_deliver hf) (emits_deliver hs) fun s => emits_firePlan s.core.plan s []

theorem emits_prelude {pre mid post : Method} (hpre : ∀ sid, A pre sid {} {}) (hmid : ∀ sid, A mid sid {} {}) (hpost : ∀ sid, A post sid {} {})
    (hf : A .planFailed 255 {} {}) (hs : A .planSucceeded 255 {} {}) : Emits env A (prelude env pre mid post) :=
  sat_prelude made_sees.toComposes (fun _ => .nil) (emits_phase hpre _) (emits_phase hmid _) (emits_phase hpost _) (emits_planStep hf hs)

theorem emits_cycle {pre mid post : Method} (hpre : ∀ sid, A pre sid {} {}) (hmid : ∀ sid, A mid sid {} {}) (hpost : ∀ sid, A post sid {} {})
    (hf : A .planFailed 255 {} {}) (hs : A .planSucceeded 255 {} {}) (hG : ∀ c p, Guards A c p) (hL : ∀ c, Life A c) :
    Emits env A (cycle env pre mid post) :=
  .seq (emits_prelude hpre hmid hpost hf hs) (emits_processRequest hG hL)

theorem emits_query (hq : ∀ sid, A .query sid {} {}) : Emits env A (query env) :=
  sat_query made_sees.toComposes fun a => emits_deliver (hq a)

theorem emits_replayTransition (hL : Life A {}) (d : Nat) : Emits env A (replayTransition env d) :=
  sees_replayTransition made_sees unit_ignoresFlow.life unit_ignoresFlow.hist hL.emits d

theorem emits_replayEnter (hL : Life A {}) (d : Nat) : Emits env A (replayEnter env d) :=
  sees_replayEnter made_sees unit_ignoresFlow.life unit_ignoresFlow.hist hL.emits d

theorem emits_load (hL : Life A {}) (buf : List Nat) : Emits env A (load env buf) :=
  sees_load made_sees unit_ignoresFlow.life (fun _ => emits_modifyCore _) (emits_modifyCore _) hL.emits (emits_finalExit hL) buf

end FFSM2
