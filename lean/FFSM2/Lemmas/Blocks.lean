import FFSM2.Machine
import FFSM2.Lemmas.ListAux
/-!
# The building blocks in a form fit for structural proofs

The model's steps read the state they start from in three ways that a proof by composition cannot follow through
`⋙` directly: a delivery addressed to `s.core.active` / `s.core.requested`, the unrolling of the substitution
loop, and the two places where the loop's survivor is handed on.  Here each of them gets a name and each block an
equation in terms of these names, so that every judgment about steps needs one lemma per name and then composes.

"The registry" in comments is the pair `active` / `requested` of the core (FFSM2's `StateRegistry`).  `prelude` and
`cyclePhases` are two cuts of `cycle`: with and without the plan step; statements that speak of the state the plan
step starts from use the second.
-/
namespace FFSM2
open Step Ancestors

/-- the step a layer delivery reduces to once the occurrence index is fixed -/
def layerBody (env : Env) (m : Method) (sid : Nat) (cur pend : Tr) (layer : Layer) (occ : Nat) : Step :=
  (emit fun st => [Ev.cb ⟨env.inst, env.op, occ, m, sid, layer⟩ (observable env.cfg sid m layer)
      (observe env m.flavour sid cur pend st.core)]) ⋙
    (if observable env.cfg sid m layer then
      runActions env m.flavour sid ⟨env.inst, env.op, occ, m, sid, layer⟩ (env.beh ⟨env.inst, env.op, occ, m, sid, layer⟩)
     else skip)

theorem deliverLayer_eq (env : Env) (m : Method) (sid : Nat) (cur pend : Tr) (layer : Layer) (s : St) :
    deliverLayer env m sid cur pend layer s =
      layerBody env m sid cur pend layer (occOf s.seen (m, sid, layer)) { s with seen := (m, sid, layer) :: s.seen } := rfl

/-- a step that first reads an id from the registry -/
def reading (sel : Core → Nat) (g : Nat → Step) : Step := fun s => g (sel s.core) s

/-- `S_::deepExit` of the active state: its `exit()`, then `clearTaskStatus` -/
def exitActive (env : Env) (cur : Tr) : Step :=
  reading Core.active fun a => deliver env .exit a cur {} ⋙ modifyCore (clearTaskStatus env.cfg a)

theorem deepEnter_eq (env : Env) (cur : Tr) : deepEnter env cur =
    modifyCore (fun c => { c with active := c.requested, requested := 255 }) ⋙ deliver env .enter 255 cur {} ⋙
    reading Core.active fun a => deliver env .enter a cur {} := rfl

theorem deepExit_eq (env : Env) (cur : Tr) : deepExit env cur =
    exitActive env cur ⋙ deliver env .exit 255 cur {} ⋙ modifyCore (fun c => { c with active := 255 }) ⋙
    modifyCore (fun c => if env.cfg.plans then planClearCore c else c) := rfl

theorem changeToRequested_eq (env : Env) (cur : Tr) : changeToRequested env cur = fun s =>
    if s.core.requested != s.core.active then
      (exitActive env cur ⋙ modifyCore (fun c => { c with active := c.requested, requested := 255 }) ⋙
        reading Core.active fun a => deliver env .enter a cur {}) s
    else (modifyCore (fun c => { c with requested := 255 }) ⋙ reading Core.active fun a => deliver env .reenter a cur {}) s := by
  -- with `⋙` folded, `rfl` compares `reading Core.active _` with `deliver env .reenter s.core.active _ _` first
  unfold changeToRequested Step.seq
  rfl

theorem guardRound_eq (env : Env) (cur pend : Tr) : guardRound env cur pend =
    modify (fun s => { s with ts := .none, cancelled := false }) ⋙
    (reading Core.active fun a => deliver env .exitGuard a cur pend) ⋙
    fun s => if s.cancelled then skip s else (reading Core.requested fun a => deliver env .entryGuard a cur pend) s := rfl

theorem entryGuardRound_eq (env : Env) (cur pend : Tr) : entryGuardRound env cur pend =
    modify (fun s => { s with ts := .none, cancelled := false }) ⋙ deliver env .entryGuard 255 cur pend ⋙
    fun s => if s.cancelled then skip s else (reading Core.requested fun a => deliver env .entryGuard a cur pend) s := rfl

/-- the request taken up by a round of the substitution loop (`applyRequest` accepted it) / dropped by it -/
def takeRequest (s : St) : St :=
  { s with core := { s.core with requested := s.core.request.dest, request := s.core.request.clear } }
def dropRequest (s : St) : St := { s with core := { s.core with request := s.core.request.clear } }

theorem substLoop_succ (round : Tr → Tr → Step) (fuel : Nat) (cur : Tr) (s : St) :
    substLoop round (fuel + 1) cur s =
      if s.core.request.valid then
        if cur.ne ⟨255, s.core.request.dest, none⟩ then
          let r := round cur s.core.request (takeRequest s)
          let rest := substLoop round fuel (if r.1.cancelled then cur else s.core.request) r.1
          (rest.1, r.2 ++ rest.2)
        else substLoop round fuel cur (dropRequest s)
      else ((s, cur), []) := by
  rw [substLoop]
  unfold applyRequest
  cases cur.ne ⟨255, s.core.request.dest, none⟩ <;> rfl

/-- the substitution loop, then `k` of its survivor -/
def substThen (round : Tr → Tr → Step) (fuel : Nat) (k : Tr → Step) : Step := fun s =>
  let r := substLoop round fuel {} s
  let r2 := k r.1.2 r.1.1
  (r2.1, r.2 ++ r2.2)

theorem processRequest_eq (env : Env) : processRequest env = fun s =>
    if s.core.request.valid then
      substThen (guardRound env) (substFuel env.cfg.L) (fun t => applySurvivor env t ⋙ finishProcessing env t) s
    else finishProcessing env {} s := rfl

theorem initialEnter_eq (env : Env) : initialEnter env =
    modifyCore (fun c => (applyRequest {} 0 c).1) ⋙ entryGuardRound env {} {} ⋙
    substThen (entryGuardRound env) (substFuel env.cfg.L) (enterSurvivor env) := by
  funext s
  simp only [initialEnter, Step.seq, modifyCore, substThen, List.nil_append, List.append_assoc]

/-- `FullControlT::updatePlan` firing one task: the request, and for a cyclic task the success bit at once -/
def fireTask (t : Task) (s : St) : St :=
  { s with core :=
      let c1 := { s.core with request := ⟨t.origin, t.dest, t.payload⟩ }
      if t.origin == t.dest then { c1 with succ := setBit c1.succ t.origin false } else c1 }

theorem fireTask_core (t : Task) (s : St) : (fireTask t s).core =
    { s.core with request := ⟨t.origin, t.dest, t.payload⟩,
                  succ := if t.origin == t.dest then setBit s.core.succ t.origin false else s.core.succ } := by
  unfold fireTask; dsimp only; split <;> rfl

theorem firePlan_cons (env : Env) (t : Task) (ts : List Task) (s : St) (clr : List Nat) :
    firePlan env (t :: ts) s clr =
      if ctlIsActive s.core t.origin then
        if getBit s.core.succ t.origin then
          let r := firePlan env ts (fireTask t s) (if t.origin == t.dest then clr else t.origin :: clr)
          (r.1, logEv env s.core (.transition t.origin t.dest) ++ r.2)
        else
          let r := firePlan env ts s clr
          ((r.1.1, t :: r.1.2.1, r.1.2.2), r.2)
      else ((s, t :: ts, clr), []) := rfl

theorem eq_of_mem_logEv {env : Env} {c : Core} {r : LogRec} {e : Ev} (h : e ∈ logEv env c r) : e = .log env.inst r := by
  unfold logEv at h
  split at h
  · exact List.mem_singleton.mp h
  · nomatch h

/-- so a property of that event holds of all a log record puts on the trace -/
theorem forall_mem_logEv {env : Env} {c : Core} {r : LogRec} {P : Ev → Prop} (h : P (.log env.inst r)) : ∀ e ∈ logEv env c r, P e :=
  fun _ he => eq_of_mem_logEv he ▸ h

/-- all the firing loop does to the state is to write the request (that of a task it fires) and success bits; it keeps a
    sublist of the tasks and emits nothing but log records -/
theorem firePlan_shape (env : Env) : ∀ (tasks : List Task) (s : St) (clr : List Nat), ∃ q su,
    (firePlan env tasks s clr).1.1 = { s with core := { s.core with request := q, succ := su } } ∧
    (q = s.core.request ∨ ∃ t ∈ tasks, q = ⟨t.origin, t.dest, t.payload⟩) ∧
    (firePlan env tasks s clr).1.2.1.Sublist tasks ∧ ∀ e ∈ (firePlan env tasks s clr).2, ∃ o d, e = .log env.inst (.transition o d)
  | [], s, _ => ⟨_, _, rfl, .inl rfl, .slnil, fun _ h => nomatch h⟩
  | t :: ts, s, clr => by
    rw [firePlan_cons]
    -- the goal mentions the loop four times: `cases` on its two tests, where `split` is slow
    cases ctlIsActive s.core t.origin
    · exact ⟨_, _, rfl, .inl rfl, List.Sublist.refl _, fun _ h => nomatch h⟩
    cases getBit s.core.succ t.origin
    · obtain ⟨q, su, e, hq, hk, hl⟩ := firePlan_shape env ts s clr
      exact ⟨q, su, e, hq.imp_right fun ⟨x, hx, hq⟩ => ⟨x, List.mem_cons_of_mem _ hx, hq⟩, hk.cons_cons t, hl⟩
    · obtain ⟨q, su, e, hq, hk, hl⟩ := firePlan_shape env ts (fireTask t s) (if t.origin == t.dest then clr else t.origin :: clr)
      refine ⟨q, su, e.trans ?_, .inr ?_, hk.cons t, fun x hx => (List.mem_append.mp hx).elim (fun hx => ?_) (hl x)⟩
      · unfold fireTask; cases t.origin == t.dest <;> rfl
      · refine hq.elim (fun hq => ⟨t, List.mem_cons_self, hq.trans ?_⟩) fun ⟨x, hx, hq⟩ => ⟨x, List.mem_cons_of_mem _ hx, hq⟩
        unfold fireTask; cases t.origin == t.dest <;> rfl
      · exact ⟨_, _, eq_of_mem_logEv hx⟩

/-- the status `FullControlT::updatePlan` acts on: what the phases accumulated, or the active state's own report -/
def cycleStatus (s : St) : Status := s.core.subStatus.or (stateStatus s.core)

/-- `planFailed()` / `planSucceeded()` of the root, then `plan.clear()` -/
def planOutcome (env : Env) (st : Status) (m : Method) : Step :=
  modify (fun s => { s with ts := st }) ⋙ deliver env m 255 {} {} ⋙ modifyCore planClearCore

/-- the firing loop with its write-back of the kept tasks and the `successesToClear` set -/
def fireStep (env : Env) : Step := fun s =>
  let f := firePlan env s.core.plan s []
  ({ f.1.1 with core := { f.1.1.core with
      plan := f.1.2.1, succ := f.1.2.2.foldl (fun acc o => setBit acc o false) f.1.1.core.succ } }, f.2)

theorem fireStep_shape (env : Env) (s : St) : ∃ q su kept,
    (fireStep env s).1 = { s with core := { s.core with request := q, succ := su, plan := kept } } ∧
    (q = s.core.request ∨ ∃ t ∈ s.core.plan, q = ⟨t.origin, t.dest, t.payload⟩) ∧ kept.Sublist s.core.plan ∧
    ∀ e ∈ (fireStep env s).2, ∃ o d, e = .log env.inst (.transition o d) := by
  obtain ⟨q, su, e, hq, hk, hl⟩ := firePlan_shape env s.core.plan s []
  refine ⟨q, (firePlan env s.core.plan s []).1.2.2.foldl (fun acc o => setBit acc o false) su, _, ?_, hq, hk, hl⟩
  unfold fireStep
  dsimp only
  rw [e]

theorem seq_snd (f g : Step) (s : St) : ((f ⋙ g) s).2 = (f s).2 ++ (g (f s).1).2 := rfl

theorem seq_modifyCore (f : Step) (m : Core → Core) (s : St) :
    (f ⋙ modifyCore m) s = ({ (f s).1 with core := m (f s).1.core }, (f s).2) := by
  simp only [Step.seq, modifyCore, List.append_nil]

theorem planStep_eq (env : Env) : planStep env = (fun s =>
    if cycleStatus s != .none && s.core.planExists then
      if cycleStatus s == .failure then planOutcome env .failure .planFailed s
      else if !s.core.plan.isEmpty then fireStep env s else planOutcome env .success .planSucceeded s
    else skip s) ⋙ modifyCore (fun c => { c with subStatus := .none }) := by
  funext s
  rw [seq_modifyCore]
  unfold planStep cycleStatus
  cases s.core.subStatus.or (stateStatus s.core) <;> rfl

/-- `planData.clear()` / `previousTransition.clear()`, each under its feature switch: the shared tail of
    `finalExit` and `loadActive` -/
def wipe (cfg : Cfg) (c : Core) : Core :=
  let c2 := if cfg.plans then planDataClear c else c
  if cfg.history then { c2 with prev := c2.prev.clear } else c2

theorem wipe_registry (cfg : Cfg) (c : Core) : (wipe cfg c).active = c.active ∧ (wipe cfg c).requested = c.requested := by
  unfold wipe
  cases cfg.plans <;> cases cfg.history <;> exact ⟨rfl, rfl⟩

theorem wipe_request (cfg : Cfg) (c : Core) : (wipe cfg c).request = c.request := by
  unfold wipe
  cases cfg.plans <;> cases cfg.history <;> rfl

theorem wipe_logger (cfg : Cfg) (c : Core) : (wipe cfg c).logger = c.logger := by
  unfold wipe
  cases cfg.plans <;> cases cfg.history <;> rfl

theorem wipe_prev {cfg : Cfg} (hh : cfg.history = true) (c : Core) : (wipe cfg c).prev = c.prev.clear := by
  unfold wipe
  rw [hh]
  cases cfg.plans <;> rfl

theorem finalExit_eq (env : Env) : finalExit env = deepExit env {} ⋙
    (modifyCore (fun c => { c with requested := 255, active := 255, request := c.request.clear }) ⋙ modifyCore (wipe env.cfg)) := rfl

theorem loadActive_eq (env : Env) (r : Nat) : loadActive env r =
    (modifyCore (fun c => { c with requested := r, request := c.request.clear }) ⋙ modifyCore (wipe env.cfg)) ⋙
    changeToRequested env {} := rfl

theorem phase_eq (env : Env) (m : Method) (hf : Bool) : phase env m hf = reading Core.active fun a =>
    (if hf then deliver env m 255 {} {} ⋙ (deliver env m a {} {} ⋙
        modify fun s => { s with core := { s.core with subStatus := s.core.subStatus.or s.ts } })
      else (deliver env m a {} {} ⋙
        modify fun s => { s with core := { s.core with subStatus := s.core.subStatus.or s.ts } }) ⋙ deliver env m 255 {} {}) ⋙
    modify fun s => { s with ts := .none } := rfl

def cyclePhases (env : Env) (pre mid post : Method) : Step :=
  modify (fun s => { s with ts := .none }) ⋙
  phase env pre (headFirst pre) ⋙ phase env mid (headFirst mid) ⋙ phase env post (headFirst post)

theorem cycle_eq_phases (env : Env) (pre mid post : Method) :
    cycle env pre mid post = cyclePhases env pre mid post ⋙ (if env.cfg.plans then planStep env else skip) ⋙ processRequest env := rfl

/-- everything `update()` / `react()` does before `processRequest` -/
def prelude (env : Env) (pre mid post : Method) : Step :=
  modify (fun s => { s with ts := .none }) ⋙
  phase env pre (headFirst pre) ⋙ phase env mid (headFirst mid) ⋙ phase env post (headFirst post) ⋙
  (if env.cfg.plans then planStep env else skip)

theorem cycle_eq (env : Env) (pre mid post : Method) : cycle env pre mid post = prelude env pre mid post ⋙ processRequest env := rfl

theorem query_eq (env : Env) : query env = reading Core.active fun a =>
    if headFirst .query then deliver env .query 255 {} {} ⋙ deliver env .query a {} {}
    else deliver env .query a {} {} ⋙ deliver env .query 255 {} {} := rfl

theorem load_eq (env : Env) (buf : List Nat) : load env buf = fun s =>
    if (BitStream.read 1 buf 0).1 != 0 then
      (if s.core.active != 255 then
        loadActive env (BitStream.read (Gen.widthBits env.cfg.n) buf (BitStream.read 1 buf 0).2).1 s
      else if env.cfg.manual then
        (modifyCore (fun c => { c with requested := (BitStream.read (Gen.widthBits env.cfg.n) buf (BitStream.read 1 buf 0).2).1 }) ⋙
          deepEnter env {}) s
      else skip s)
    else if env.cfg.manual && s.core.active != 255 then finalExit env s else skip s := rfl

theorem clearTaskStatus_eq (cfg : Cfg) (id : Nat) (c : Core) : clearTaskStatus cfg id c =
    { c with succ := if cfg.plans && id != 255 then setBit c.succ id false else c.succ,
             fail := if cfg.plans && id != 255 then setBit c.fail id false else c.fail } := by
  unfold clearTaskStatus; split <;> rfl

theorem applyRequest_fst (cur : Tr) (d : Nat) (c : Core) :
    (applyRequest cur d c).1 = { c with requested := if cur.ne ⟨255, d, none⟩ then d else c.requested } := by
  unfold applyRequest; split <;> rfl

theorem applyRequest_fresh {d : Nat} (hd : d ≠ 255) (c : Core) : (applyRequest {} d c).1 = { c with requested := d } := by
  rw [applyRequest_fst, if_pos (by simp [Tr.ne, Ne.symm hd])]

/-- `PlanT::append` / `PayloadPlanT::append` in one form: the task is added if there is room; the payload variant raises
    `planExists` even when the plan is full -/
theorem applyAction_planAppend (env : Env) (sid o d : Nat) (p : Option Nat) (s : St) :
    applyAction env sid (.planAppend o d p) s =
      ({ s with core := { s.core with
          plan := if s.core.plan.length < env.cfg.cap then s.core.plan ++ [⟨o, d, p⟩] else s.core.plan,
          planExists := if s.core.plan.length < env.cfg.cap then true else p.isSome || s.core.planExists } }, []) := by
  cases p <;> simp only [applyAction] <;> split <;> rfl

end FFSM2
