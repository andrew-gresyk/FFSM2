import FFSM2.Lemmas.SimWorld
/-! A machine's behaviour does not depend on *which* instance it is: running any building block under
    instance id `j` instead of `i` gives the same resulting state and the same trace up to the instance label —
    provided user code behaves alike for both ids.  This is what makes a copy "respond to the same inputs
    with the same callbacks and results" as its original (C17). -/
namespace FFSM2
open Step Ancestors

def Key.withInst (k : Key) (j : Nat) : Key := { k with inst := j }

def Ev.relabel (j : Nat) : Ev → Ev
  | .cb k v o => .cb (k.withInst j) v o
  | .act k a => .act (k.withInst j) a
  | .log _ r => .log j r
  | .api _ k n o => .api j k n o
  | .rejected _ k n => .rejected j k n

def Env.onInst (env : Env) (j : Nat) : Env := ⟨env.cfg, env.beh, j, env.op⟩

@[simp] theorem onInst_cfg (env : Env) (j : Nat) : (env.onInst j).cfg = env.cfg := rfl

/-- user code that does for instance `j` what it does for the instance of `env` -/
def BehAlike (env : Env) (j : Nat) : Prop := ∀ k : Key, k.inst = env.inst → env.beh (k.withInst j) = env.beh k

/-- `f'` is `f` run as instance `j` -/
def Rel (j : Nat) (f f' : Step) : Prop := ∀ s, (f' s).1 = (f s).1 ∧ (f' s).2 = (f s).2.map (Ev.relabel j)

theorem rel_same_silent (j) {f : Step} (h : ∀ s, (f s).2 = []) : Rel j f f := fun s => ⟨rfl, by rw [h s]; rfl⟩

theorem rel_ite (j) {c : St → Prop} [DecidablePred c] {t e t' e' : Step} (ht : Rel j t t') (he : Rel j e e') :
    Rel j (fun s => if c s then t s else e s) (fun s => if c s then t' s else e' s) := by
  intro s
  by_cases h : c s
  · simp only [h, if_true]; exact ht s
  · simp only [h, if_false]; exact he s

/-- the second run is the first made on instance `j`: the same state, every event attributed to `j` -/
def relView (j : Nat) : View := .free id id (List.map (Ev.relabel j)) rfl fun _ _ => List.map_append

theorem relView_κ (j : Nat) (c : Core) : (relView j).κ c = c := rfl

theorem relView_agnostic (j : Nat) : (relView j).Agnostic := View.free_agnostic _ _

theorem Rel.of_sim {j : Nat} {f f' : Step} (h : Sim (relView j) f f') : Rel j f f' := fun s =>
  have e : f' s = ((f s).1, (f s).2.map (Ev.relabel j)) := (h s trivial).1
  ⟨congrArg (·.1) e, congrArg (·.2) e⟩

theorem rel_logEv (env : Env) (j : Nat) (s : St) (r : LogRec) (_ : (relView j).I s) :
    logEv (env.onInst j) ((relView j).κ s.core) r = (relView j).ψ (logEv env s.core r) := by
  show logEv (env.onInst j) s.core r = (logEv env s.core r).map (Ev.relabel j)
  unfold logEv Env.onInst
  dsimp only
  split <;> rfl

theorem rel_leaves (env : Env) (j : Nat) (hb : BehAlike env j) : Leaves (relView j) env (env.onInst j) :=
  leaves_of_agnostic (relView_agnostic j)
    { cfg := rfl, beh := fun occ m sid layer => hb ⟨env.inst, env.op, occ, m, sid, layer⟩ rfl,
      cbEv := fun _ _ _ _ _ _ _ _ => rfl, actEv := fun _ _ _ _ _ => rfl, log := rel_logEv env j,
      methodLog := methodLog_of_log rfl rfl (rel_logEv env j), record := fun _ _ => rfl }
    -- with `(relView j).κ` left in, `rfl` compares the two cores field by field
    rfl fun c => by rw [relView_κ, relView_κ]; rfl

theorem rel_load (env : Env) (j : Nat) (hb : BehAlike env j) (buf : List Nat) : Rel j (load env buf) (load (env.onInst j) buf) :=
  .of_sim (sim_load (rel_leaves env j hb) buf)

/-! ### one API call made on another instance holding the same core -/

def Op.onInst (j : Nat) : Op → Op
  | .construct _ lg => .construct j lg
  | .destroy _ => .destroy j
  | .copy _ src => .copy j src
  | .enter _ => .enter j
  | .exit _ => .exit j
  | .update _ => .update j
  | .react _ => .react j
  | .query _ => .query j
  | .changeTo _ d => .changeTo j d
  | .changeWith _ d p => .changeWith j d p
  | .immediateChangeTo _ d => .immediateChangeTo j d
  | .immediateChangeWith _ d p => .immediateChangeWith j d p
  | .succeed _ id => .succeed j id
  | .fail _ id => .fail j id
  | .planAppend _ o d p => .planAppend j o d p
  | .planClear _ => .planClear j
  | .planRemove _ m => .planRemove j m
  | .save _ => .save j
  | .load _ src => .load j src
  | .replayEnter _ d => .replayEnter j d
  | .replayTransition _ d => .replayTransition j d
  | .attachLogger _ on => .attachLogger j on
  | .replayFrom _ src => .replayFrom j src
  | .replayEnterFrom _ src => .replayEnterFrom j src

/-- calls that involve one instance only -/
def Op.single : Op → Bool
  | .copy .. | .load .. | .replayFrom .. | .replayEnterFrom .. => false
  | _ => true

/-- the outcome of a call on slot `j` of `w'` mirrors the outcome of the same call on slot `i` of `w` -/
def Mirrors (i j : Nat) (r r' : World × List Ev) : Prop := r'.1.get j = r.1.get i ∧ r'.2 = r.2.map (Ev.relabel j)

theorem onInst_inst (op : Op) (j : Nat) : (op.onInst j).inst = j := by cases op <;> rfl
theorem onInst_name (op : Op) (j : Nat) : (op.onInst j).name = op.name := by cases op <;> rfl

/-- `effect` does not look at the instance id of the call -/
theorem effect_onInst (env : Env) (w : World) (op : Op) (j : Nat) (slot : Option Core) :
    effect env w (op.onInst j) slot = effect env w op slot := by
  cases op <;> cases slot <;> rfl

/-- **the same call on an instance holding the same core gives the same result and the same trace up to the
    instance label**, for every single-instance API call, provided user code treats the two instances alike -/
theorem step_relabel (cfg : Cfg) (beh : Beh) (w w' : World) (k : Nat) (op : Op) (j : Nat)
    (hslot : w'.get j = w.get op.inst) (hb : ∀ key : Key, key.inst = op.inst → beh (key.withInst j) = beh key)
    (hsingle : op.single = true) :
    Mirrors op.inst j (step cfg beh w k op) (step cfg beh w' k (op.onInst j)) := by
  have L := rel_leaves ⟨cfg, beh, op.inst, k⟩ j hb
  have hplan : Sim (relView j) (if cfg.plans then planStep ⟨cfg, beh, op.inst, k⟩ else skip)
      (if cfg.plans then planStep ⟨cfg, beh, j, k⟩ else skip) := sim_planStep (relView_agnostic j) L rfl
  have hκ : (relView j).κ = id := rfl
  rw [step_eq, step_eq, onInst_inst, onInst_name, effect_onInst, hslot]
  have h := (effect_sim L hplan w w' op
    ⟨fun _ => ⟨rfl, relView_agnostic j⟩, fun _ => ⟨rfl, fun _ => rfl⟩, fun _ => rfl, fun _ _ _ => ⟨rfl, trivial⟩,
     fun _ _ _ => ⟨rfl, rfl, fun _ _ => trivial⟩⟩
    (fun i src e => by subst e; cases hsingle) (w.get op.inst) fun _ _ => trivial).slot
    (cfg := cfg) (cfg' := cfg) (i := op.inst) (i' := j) ⟨fun _ _ _ _ _ => rfl, fun _ _ => rfl⟩ w w' k op.name
    (by rw [hslot, hκ, Option.map_id]; rfl)
  rw [hκ, Option.map_id] at h
  exact h

end FFSM2
