import FFSM2.Lemmas.Blocks
/-! Judgments on a step that relate the state before, the trace and the state after, and compose along `⋙`:
    `Sat J f`.  The combinators are proved once for every such `J`; so is the walk below `deliver`, which leaves a
    judgment three things to show: the method record, a layer's delivery event, one permitted action. -/
namespace FFSM2
open Step Ancestors

def Sat (J : St → List Ev → St → Prop) (f : Step) : Prop := ∀ s, J s (f s).2 (f s).1

/-- `J` holds of doing nothing and of doing one thing after another -/
structure Composes (J : St → List Ev → St → Prop) : Prop where
  nil : ∀ s, J s [] s
  app : ∀ {s t u : St} {a b : List Ev}, J s a t → J t b u → J s (a ++ b) u

variable {J : St → List Ev → St → Prop}

theorem Composes.silent_then (hJ : Composes J) {s t u : St} {b : List Ev} (h1 : J s [] t) (h2 : J t b u) : J s b u :=
  hJ.app h1 h2

theorem Sat.seq (hJ : Composes J) {f g : Step} (hf : Sat J f) (hg : Sat J g) : Sat J (f ⋙ g) := fun s => hJ.app (hf s) (hg _)
theorem sat_skip (hJ : Composes J) : Sat J skip := fun s => hJ.nil s
theorem sat_modify {m : St → St} (h : ∀ s, J s [] (m s)) : Sat J (modify m) := h
theorem sat_modifyCore {m : Core → Core} (h : ∀ s : St, J s [] { s with core := m s.core }) : Sat J (modifyCore m) := h
theorem sat_reading (sel : Core → Nat) {g : Nat → Step} (h : ∀ a, Sat J (g a)) : Sat J (reading sel g) := fun s => h _ s
theorem sat_ite (c : St → Bool) {t e : Step} (ht : Sat J t) (he : Sat J e) : Sat J (fun s => if c s then t s else e s) := by
  intro s
  show J s (if c s then t s else e s).2 (if c s then t s else e s).1
  cases c s
  · exact he s
  · exact ht s
theorem sat_seqList (hJ : Composes J) {l : List Step} (h : ∀ f ∈ l, Sat J f) : Sat J (seqList l) := by
  induction l with
  | nil => exact sat_skip hJ
  | cons f fs ih => exact Sat.seq hJ (h f (by simp)) (ih fun g hg => h g (by simp [hg]))

/-- the substitution loop, for a judgment that does not care which transition survives -/
theorem sat_substLoop (hJ : Composes J) {round : Tr → Tr → Step} (hr : ∀ c p, Sat J (round c p))
    (htake : ∀ s, J s [] (takeRequest s)) (hdrop : ∀ s, J s [] (dropRequest s)) :
    ∀ (fuel : Nat) (cur : Tr) (s : St), J s (substLoop round fuel cur s).2 (substLoop round fuel cur s).1.1
  | 0, _, s => hJ.nil s
  | fuel + 1, cur, s => by
    rw [substLoop_succ]
    cases s.core.request.valid
    · exact hJ.nil s
    cases cur.ne ⟨255, s.core.request.dest, none⟩
    · exact hJ.silent_then (hdrop s) (sat_substLoop hJ hr htake hdrop fuel cur _)
    · exact hJ.silent_then (htake s) (hJ.app (hr _ _ _) (sat_substLoop hJ hr htake hdrop fuel _ _))

theorem sat_substThen (hJ : Composes J) {round : Tr → Tr → Step} (hr : ∀ c p, Sat J (round c p))
    (htake : ∀ s, J s [] (takeRequest s)) (hdrop : ∀ s, J s [] (dropRequest s)) (fuel : Nat) {k : Tr → Step}
    (hk : ∀ t, Sat J (k t)) : Sat J (substThen round fuel k) :=
  fun s => hJ.app (sat_substLoop hJ hr htake hdrop fuel {} s) (hk _ _)

/-- **below `deliver`, once**: the record, each layer's delivery event (which also counts the delivery in `seen`),
    and each permitted action with its `act` event -/
theorem sat_deliver (hJ : Composes J) {env : Env} {m : Method} {sid : Nat} {cur pend : Tr}
    (hrec : ∀ s, J s (if recorded env.cfg sid m then logEv env s.core (.method sid m) else []) s)
    (hcb : ∀ layer s, J s [.cb ⟨env.inst, env.op, occOf s.seen (m, sid, layer), m, sid, layer⟩ (observable env.cfg sid m layer)
      (observe env m.flavour sid cur pend s.core)] { s with seen := (m, sid, layer) :: s.seen })
    (hact : ∀ layer occ a s, a ∈ env.beh ⟨env.inst, env.op, occ, m, sid, layer⟩ → permitted env.cfg m.flavour sid a = true →
      J s (.act ⟨env.inst, env.op, occ, m, sid, layer⟩ a :: (applyAction env sid a s).2) (applyAction env sid a s).1) :
    Sat J (deliver env m sid cur pend) := by
  have hrun : ∀ layer occ as, (∀ a ∈ as, a ∈ env.beh ⟨env.inst, env.op, occ, m, sid, layer⟩) →
      Sat J (runActions env m.flavour sid ⟨env.inst, env.op, occ, m, sid, layer⟩ as) := by
    intro layer occ as
    induction as with
    | nil => intro _; exact sat_skip hJ
    | cons a as ih =>
      intro hmem
      unfold runActions
      refine Sat.seq hJ ?_ (ih fun x hx => hmem x (by simp [hx]))
      split
      · rename_i hp
        exact fun s => hact layer occ a s (hmem a (by simp)) hp
      · exact sat_skip hJ
  unfold deliver
  refine Sat.seq hJ hrec (sat_seqList hJ ?_)
  intro f hf
  obtain ⟨l, _, rfl⟩ := List.mem_map.mp hf
  intro s
  rw [deliverLayer_eq]
  unfold layerBody
  refine hJ.app (hcb l s) ?_
  split
  · exact hrun _ _ _ (fun _ h => h) _
  · exact hJ.nil _


/-! ### blocks that only arrange deliveries and silent writes -/

theorem sat_phase (hJ : Composes J) {env : Env} {m : Method} (hd : ∀ a, Sat J (deliver env m a {} {}))
    (hsub : ∀ s : St, J s [] { s with core := { s.core with subStatus := s.core.subStatus.or s.ts } })
    (hts : ∀ s : St, J s [] { s with ts := .none }) (hf : Bool) : Sat J (phase env m hf) := by
  rw [phase_eq]
  refine sat_reading _ fun a => Sat.seq hJ ?_ (sat_modify hts)
  cases hf
  · exact Sat.seq hJ (Sat.seq hJ (hd a) (sat_modify hsub)) (hd 255)
  · exact Sat.seq hJ (hd 255) (Sat.seq hJ (hd a) (sat_modify hsub))

theorem sat_planStep (hJ : Composes J) {env : Env} (hf : Sat J (planOutcome env .failure .planFailed))
    (hs : Sat J (planOutcome env .success .planSucceeded)) (hfire : Sat J (fireStep env))
    (hsub : ∀ s : St, J s [] { s with core := { s.core with subStatus := .none } }) : Sat J (planStep env) := by
  rw [planStep_eq]
  exact Sat.seq hJ (sat_ite _ (sat_ite _ hf (sat_ite _ hfire hs)) (sat_skip hJ)) (sat_modifyCore hsub)

theorem sat_cyclePhases (hJ : Composes J) {env : Env} {pre mid post : Method} (hts : ∀ s : St, J s [] { s with ts := .none })
    (h1 : Sat J (phase env pre (headFirst pre))) (h2 : Sat J (phase env mid (headFirst mid)))
    (h3 : Sat J (phase env post (headFirst post))) : Sat J (cyclePhases env pre mid post) :=
  Sat.seq hJ (Sat.seq hJ (Sat.seq hJ (sat_modify hts) h1) h2) h3

theorem sat_prelude (hJ : Composes J) {env : Env} {pre mid post : Method} (hts : ∀ s : St, J s [] { s with ts := .none })
    (h1 : Sat J (phase env pre (headFirst pre))) (h2 : Sat J (phase env mid (headFirst mid)))
    (h3 : Sat J (phase env post (headFirst post))) (hplan : Sat J (planStep env)) : Sat J (prelude env pre mid post) :=
  Sat.seq hJ (sat_cyclePhases hJ hts h1 h2 h3) (by split; exact hplan; exact sat_skip hJ)

theorem sat_cycle (hJ : Composes J) {env : Env} (hts : ∀ s : St, J s [] { s with ts := .none })
    (hph : ∀ m hf, Sat J (phase env m hf)) (hplan : Sat J (planStep env)) (hreq : Sat J (processRequest env))
    (pre mid post : Method) : Sat J (cycle env pre mid post) :=
  Sat.seq hJ (sat_prelude hJ hts (hph _ _) (hph _ _) (hph _ _) hplan) hreq

theorem sat_query (hJ : Composes J) {env : Env} (hd : ∀ a, Sat J (deliver env .query a {} {})) : Sat J (query env) := by
  rw [query_eq]
  refine sat_reading _ fun a => ?_
  split <;> exact Sat.seq hJ (hd _) (hd _)

/-! ### judgments that see the state only through a projection

Such a judgment holds of every silent step that leaves the projection alone, so for a block only two things are left to
show: the judgment of the block's deliveries, and that the projection ignores what the block writes on its own. -/

structure Sees {α : Type} (π : St → α) (J : St → List Ev → St → Prop) : Prop extends Composes J where
  silent : ∀ {s s' : St}, π s' = π s → J s [] s'

/-- `π` reads neither the registry nor the task status bits: all that the blocks of a transition write on their own -/
def IgnoresLife {α : Type} (π : St → α) : Prop := ∀ (s : St) (a r : Nat) (su fa : List Bool),
  π { s with core := { s.core with active := a, requested := r, succ := su, fail := fa } } = π s

/-- `π` reads neither `requested` nor the history: what is written where a processing point closes, and by replay -/
def IgnoresHist {α : Type} (π : St → α) : Prop := ∀ (s : St) (r : Nat) (p : Tr),
  π { s with core := { s.core with requested := r, prev := p } } = π s

/-- `π` reads nothing that is written outside the plan step, the exits and `load`: neither the above, nor the request, the
    sub-status and the control's registers -/
def IgnoresFlow {α : Type} (π : St → α) : Prop := ∀ (s : St) (a r : Nat) (q pv : Tr) (su fa : List Bool) (sub ts : Status) (cn : Bool),
  π { s with core := { s.core with active := a, requested := r, request := q, prev := pv, succ := su, fail := fa, subStatus := sub },
             ts := ts, cancelled := cn } = π s

/-- a step that leaves a part of the core as it was -/
abbrev Fixes {α : Type} (π : Core → α) (f : Step) : Prop := Sat (fun s _ s' => π s'.core = π s.core) f

theorem fixes_sees {α : Type} (π : Core → α) : Sees (fun s => π s.core) (fun s _ s' => π s'.core = π s.core) where
  nil _ := rfl
  app h1 h2 := h2.trans h1
  silent h := h

section sees
variable {α : Type} {π : St → α} {env : Env}

theorem IgnoresFlow.life (hπ : IgnoresFlow π) : IgnoresLife π := fun s a r su fa => hπ s a r _ _ su fa ..
theorem IgnoresFlow.hist (hπ : IgnoresFlow π) : IgnoresHist π := fun s r p => hπ s _ r _ p ..

theorem Sees.seq (h : Sees π J) {f g : Step} (hf : Sat J f) (hg : Sat J g) : Sat J (f ⋙ g) := Sat.seq h.toComposes hf hg
theorem sees_modify (h : Sees π J) {m : St → St} (hm : ∀ s, π (m s) = π s) : Sat J (modify m) := fun s => h.silent (hm s)
theorem sees_modifyCore (h : Sees π J) {m : Core → Core} (hm : ∀ s : St, π { s with core := m s.core } = π s) :
    Sat J (modifyCore m) := fun s => h.silent (hm s)

theorem sees_applyRequest (h : Sees π J) (hπ : IgnoresHist π) (cur : Tr) (d : Nat) (f : Tr → Tr) :
    Sat J (modifyCore fun c => { (applyRequest cur d c).1 with prev := f c.prev }) :=
  sees_modifyCore h fun s => by rw [applyRequest_fst]; exact hπ s ..

/-! the blocks of a transition; `hd`: the judgment of a lifecycle delivery.  Deliveries are told apart by the control they
    hand out (`Method.flavour`): `.plan` is what `enter` / `exit` / `reenter` get (a `PlanControl`), `.guard` what the two guards get. -/

theorem sees_exitActive (h : Sees π J) (hπ : IgnoresLife π) {cur : Tr} (hd : ∀ m a, m.flavour = .plan → Sat J (deliver env m a cur {})) :
    Sat J (exitActive env cur) :=
  sat_reading _ fun a => h.seq (hd _ a rfl) (sees_modifyCore h fun s => by rw [clearTaskStatus_eq]; exact hπ s ..)

theorem sees_deepEnter (h : Sees π J) (hπ : IgnoresLife π) {cur : Tr} (hd : ∀ m a, m.flavour = .plan → Sat J (deliver env m a cur {})) :
    Sat J (deepEnter env cur) := by
  rw [deepEnter_eq]
  exact h.seq (h.seq (sees_modifyCore h fun s => hπ s ..) (hd _ _ rfl)) (sat_reading _ fun a => hd _ a rfl)

theorem sees_changeToRequested (h : Sees π J) (hπ : IgnoresLife π) {cur : Tr}
    (hd : ∀ m a, m.flavour = .plan → Sat J (deliver env m a cur {})) : Sat J (changeToRequested env cur) := by
  rw [changeToRequested_eq]
  exact sat_ite _
    (h.seq (h.seq (sees_exitActive h hπ hd) (sees_modifyCore h fun s => hπ s ..)) (sat_reading _ fun a => hd _ a rfl))
    (h.seq (sees_modifyCore h fun s => hπ s ..) (sat_reading _ fun a => hd _ a rfl))

theorem sees_applySurvivor (h : Sees π J) (hπ : IgnoresLife π) {cur : Tr} (hd : ∀ m a, m.flavour = .plan → Sat J (deliver env m a cur {})) :
    Sat J (applySurvivor env cur) :=
  sat_ite (fun _ => cur.valid) (h.seq (sees_modifyCore h fun s => hπ s ..) (sees_changeToRequested h hπ hd)) (sat_skip h.toComposes)

theorem sees_deepExit (h : Sees π J) (hπ : IgnoresLife π) (hP : Sat J (modifyCore fun c => if env.cfg.plans then planClearCore c else c))
    {cur : Tr} (hd : ∀ m a, m.flavour = .plan → Sat J (deliver env m a cur {})) : Sat J (deepExit env cur) := by
  rw [deepExit_eq]
  exact h.seq (h.seq (h.seq (sees_exitActive h hπ hd) (hd _ _ rfl)) (sees_modifyCore h fun s => hπ s ..)) hP

/-! a transition with the history written around it -/

theorem sees_finishProcessing (h : Sees π J) (hπ : IgnoresHist π) (cur : Tr) : Sat J (finishProcessing env cur) :=
  sees_modifyCore h fun s => hπ s ..

theorem sees_replayTransition (h : Sees π J) (hL : IgnoresLife π) (hH : IgnoresHist π)
    (hd : ∀ m a, m.flavour = .plan → Sat J (deliver env m a {} {})) (d : Nat) : Sat J (replayTransition env d) :=
  h.seq (h.seq (h.seq (sees_modifyCore h fun s => hH s ..)
    (sees_applyRequest h hH {} d fun _ => ⟨255, d, none⟩)) (sees_changeToRequested h hL hd)) (sees_modifyCore h fun s => hH s ..)

theorem sees_replayEnter (h : Sees π J) (hL : IgnoresLife π) (hH : IgnoresHist π)
    (hd : ∀ m a, m.flavour = .plan → Sat J (deliver env m a {} {})) (d : Nat) : Sat J (replayEnter env d) :=
  h.seq (h.seq (sees_applyRequest h hH {} d fun _ => ⟨255, d, none⟩) (sees_deepEnter h hL hd))
    (sees_modifyCore h fun s => hH s ..)

/-! guard rounds, the substitution loop and the phases: each with what it writes on its own -/

theorem sees_guardRound (h : Sees π J) (hπ : ∀ (s : St) (ts : Status) (cn : Bool), π { s with ts := ts, cancelled := cn } = π s)
    {cur pend : Tr} (hd : ∀ m a, m.flavour = .guard → Sat J (deliver env m a cur pend)) : Sat J (guardRound env cur pend) := by
  rw [guardRound_eq]
  exact h.seq (h.seq (sees_modify h fun s => hπ s ..) (sat_reading _ fun _ => hd _ _ rfl))
    (sat_ite _ (sat_skip h.toComposes) (sat_reading _ fun _ => hd _ _ rfl))

theorem sees_entryGuardRound (h : Sees π J) (hπ : ∀ (s : St) (ts : Status) (cn : Bool), π { s with ts := ts, cancelled := cn } = π s)
    {cur pend : Tr} (hd : ∀ m a, m.flavour = .guard → Sat J (deliver env m a cur pend)) : Sat J (entryGuardRound env cur pend) := by
  rw [entryGuardRound_eq]
  exact h.seq (h.seq (sees_modify h fun s => hπ s ..) (hd _ _ rfl))
    (sat_ite _ (sat_skip h.toComposes) (sat_reading _ fun _ => hd _ _ rfl))

theorem sees_substThen (h : Sees π J)
    (hπ : ∀ (s : St) (r : Nat) (q : Tr), π { s with core := { s.core with requested := r, request := q } } = π s)
    {round : Tr → Tr → Step} (hr : ∀ c p, Sat J (round c p)) (fuel : Nat) {k : Tr → Step} (hk : ∀ t, Sat J (k t)) :
    Sat J (substThen round fuel k) :=
  sat_substThen h.toComposes hr (fun s => h.silent (hπ s ..)) (fun s => h.silent (hπ s ..)) fuel hk

theorem sees_phase (h : Sees π J)
    (hπ : ∀ (s : St) (sub ts : Status), π { s with core := { s.core with subStatus := sub }, ts := ts } = π s)
    {m : Method} (hd : ∀ a, Sat J (deliver env m a {} {})) (hf : Bool) : Sat J (phase env m hf) :=
  sat_phase h.toComposes hd (fun s => h.silent (hπ s ..)) (fun s => h.silent (hπ s ..)) hf

/-- the firing loop writes the request, the plan and success bits, and emits transition records only (the `Sees` witness
    only fixes `π`) -/
theorem sees_fireStep (_ : Sees π J)
    (hπ : ∀ (s : St) (q : Tr) (pl : List Task) (su : List Bool), π { s with core := { s.core with request := q, succ := su, plan := pl } } = π s)
    (hlog : ∀ {s s' : St} {es : List Ev}, π s' = π s → (∀ e ∈ es, ∃ o d, e = .log env.inst (.transition o d)) → J s es s') :
    Sat J (fireStep env) := fun s => by
  obtain ⟨q, su, kept, e, _, _, hl⟩ := fireStep_shape env s
  exact hlog (by rw [e]; exact hπ s ..) hl

/-- the plan step: an outcome delivery with `plan.clear()`, or the firing loop -/
theorem sees_planStep (h : Sees π J)
    (hπ : ∀ (s : St) (pl : List Task) (su fa : List Bool) (sub ts : Status),
      π { s with core := { s.core with plan := pl, succ := su, fail := fa, subStatus := sub }, ts := ts } = π s)
    (hf : Sat J (deliver env .planFailed 255 {} {})) (hs : Sat J (deliver env .planSucceeded 255 {} {}))
    (hfire : Sat J (fireStep env)) : Sat J (planStep env) := by
  have out : ∀ {st m}, Sat J (deliver env m 255 {} {}) → Sat J (planOutcome env st m) := fun hd =>
    h.seq (h.seq (sees_modify h fun s => hπ s ..) hd) (sees_modifyCore h fun s => hπ s ..)
  exact sat_planStep h.toComposes (out hf) (out hs) hfire fun s => h.silent (hπ s ..)

/-! request processing and activation write all of these; `hg`, `hl`: the judgment of a guard / a lifecycle delivery -/

theorem sees_processRequest (h : Sees π J) (hπ : IgnoresFlow π)
    (hg : ∀ m a cur pend, m.flavour = .guard → Sat J (deliver env m a cur pend))
    (hl : ∀ m a cur, m.flavour = .plan → Sat J (deliver env m a cur {})) : Sat J (processRequest env) := by
  rw [processRequest_eq]
  exact sat_ite _
    (sees_substThen h (fun s _ _ => hπ s ..) (fun _ _ => sees_guardRound h (fun s _ _ => hπ s ..) fun _ _ => hg _ _ _ _) _ fun t =>
      h.seq (sees_applySurvivor h hπ.life fun _ _ => hl _ _ _) (sees_finishProcessing h hπ.hist t))
    (sees_finishProcessing h hπ.hist {})

theorem sees_initialEnter (h : Sees π J) (hπ : IgnoresFlow π)
    (hg : ∀ m a cur pend, m.flavour = .guard → Sat J (deliver env m a cur pend))
    (hl : ∀ m a cur, m.flavour = .plan → Sat J (deliver env m a cur {})) : Sat J (initialEnter env) := by
  rw [initialEnter_eq]
  exact h.seq (h.seq (sees_applyRequest h hπ.hist {} 0 id) (sees_entryGuardRound h (fun s _ _ => hπ s ..) fun _ _ => hg _ _ _ _))
    (sees_substThen h (fun s _ _ => hπ s ..) (fun _ _ => sees_entryGuardRound h (fun s _ _ => hπ s ..) fun _ _ => hg _ _ _ _) _ fun _ =>
      h.seq (h.seq (sees_modifyCore h fun s => hπ.hist s ..) (sees_deepEnter h hπ.life fun _ _ => hl _ _ _))
        (sees_modifyCore h fun s => hπ.hist s ..))

/-! deactivation and `load`: besides a transition's blocks, `hP`, `hq`, `hw`: the judgment of `plan.clear()`, of the reset of the
    request and of the `wipe` -/

theorem sees_finalExit (h : Sees π J) (hπ : IgnoresLife π) (hP : Sat J (modifyCore fun c => if env.cfg.plans then planClearCore c else c))
    (hq : Sat J (modifyCore fun c => { c with requested := 255, active := 255, request := c.request.clear }))
    (hw : Sat J (modifyCore (wipe env.cfg))) (hl : ∀ m a, m.flavour = .plan → Sat J (deliver env m a {} {})) : Sat J (finalExit env) := by
  rw [finalExit_eq]
  exact h.seq (sees_deepExit h hπ hP hl) (h.seq hq hw)

theorem sees_load (h : Sees π J) (hπ : IgnoresLife π) (hq : ∀ r, Sat J (modifyCore fun c => { c with requested := r, request := c.request.clear }))
    (hw : Sat J (modifyCore (wipe env.cfg))) (hl : ∀ m a, m.flavour = .plan → Sat J (deliver env m a {} {})) (hx : Sat J (finalExit env))
    (buf : List Nat) : Sat J (load env buf) := by
  rw [load_eq]
  exact sat_ite _
    (sat_ite _ (by rw [loadActive_eq]; exact h.seq (h.seq (hq _) hw) (sees_changeToRequested h hπ hl))
      (sat_ite (fun _ => env.cfg.manual) (h.seq (sees_modifyCore h fun s => hπ s s.core.active _ s.core.succ s.core.fail) (sees_deepEnter h hπ hl))
        (sat_skip h.toComposes)))
    (sat_ite _ hx (sat_skip h.toComposes))

end sees

end FFSM2
