import FFSM2.Lemmas.Lifecycle
/-! The substitution loop (`processTransitions` / `initialEnter`) and request processing. -/
namespace FFSM2
open Step Ancestors

/-- ghost view of `substLoop`: the rounds it evaluates, as `(pending transition, vetoed?)`; same recursion, see
    `substRounds_succ` next to `substLoop_succ` -/
def substRounds (round : Tr → Tr → Step) : Nat → Tr → St → List (Tr × Bool)
  | 0, _, _ => []
  | fuel + 1, current, s =>
    if s.core.request.valid then
      let ar := applyRequest current s.core.request.dest s.core
      if ar.2 then
        let pending := s.core.request
        let s1 := { s with core := { ar.1 with request := ar.1.request.clear } }
        let r := round current pending s1
        let current' := if r.1.cancelled then current else pending
        (pending, r.1.cancelled) :: substRounds round fuel current' r.1
      else
        substRounds round fuel current { s with core := { s.core with request := s.core.request.clear } }
    else []

theorem substRounds_succ (round : Tr → Tr → Step) (fuel : Nat) (cur : Tr) (s : St) :
    substRounds round (fuel + 1) cur s =
      if s.core.request.valid then
        if cur.ne ⟨255, s.core.request.dest, none⟩ then
          (s.core.request, (round cur s.core.request (takeRequest s)).1.cancelled) ::
            substRounds round fuel (if (round cur s.core.request (takeRequest s)).1.cancelled then cur else s.core.request)
              (round cur s.core.request (takeRequest s)).1
        else substRounds round fuel cur (dropRequest s)
      else [] := by
  rw [substRounds]
  unfold applyRequest
  cases cur.ne ⟨255, s.core.request.dest, none⟩ <;> rfl

/-- "the most recent request that was not cancelled by a guard" (or the starting value) -/
def survivor (current : Tr) (rounds : List (Tr × Bool)) : Tr :=
  rounds.foldl (fun cur r => if r.2 then cur else r.1) current

theorem survivor_cases (cur0 : Tr) (rounds : List (Tr × Bool)) :
    survivor cur0 rounds = cur0 ∨ ∃ r ∈ rounds, r.2 = false ∧ survivor cur0 rounds = r.1 := by
  induction rounds generalizing cur0 with
  | nil => exact .inl rfl
  | cons r rs ih =>
    simp only [survivor, List.foldl_cons]
    cases hc : r.2
    · exact .inr ((ih r.1).elim (fun e => ⟨r, List.mem_cons_self, hc, e⟩) fun ⟨x, hx, hx2, e⟩ => ⟨x, List.mem_cons_of_mem _ hx, hx2, e⟩)
    · exact (ih cur0).imp_right fun ⟨x, hx, hx2, e⟩ => ⟨x, List.mem_cons_of_mem _ hx, hx2, e⟩

theorem survivor_of_valid {rounds : List (Tr × Bool)} (hv : (survivor {} rounds).valid = true) :
    ∃ r ∈ rounds, r.2 = false ∧ survivor {} rounds = r.1 :=
  (survivor_cases {} rounds).resolve_left fun e => by rw [e] at hv; cases hv

theorem substLoop_current (round : Tr → Tr → Step) : ∀ (fuel : Nat) (current : Tr) (s : St),
    (substLoop round fuel current s).1.2 = survivor current (substRounds round fuel current s)
  | 0, _, _ => rfl
  | fuel + 1, current, s => by
    rw [substLoop_succ, substRounds_succ]
    cases s.core.request.valid
    · rfl
    cases current.ne ⟨255, s.core.request.dest, none⟩
    · exact substLoop_current round fuel _ _
    · exact substLoop_current round fuel _ _

/-- **C04**: the loop evaluates at most `fuel` rounds (`fuel = substFuel L`, the translated loop header; `= L` by `C04_loop_form`) -/
theorem substRounds_length (round : Tr → Tr → Step) : ∀ (fuel : Nat) (current : Tr) (s : St),
    (substRounds round fuel current s).length ≤ fuel
  | 0, _, _ => Nat.le_refl 0
  | fuel + 1, current, s => by
    rw [substRounds_succ]
    cases s.core.request.valid
    · exact Nat.zero_le _
    cases current.ne ⟨255, s.core.request.dest, none⟩
    · exact Nat.le_succ_of_le (substRounds_length round fuel _ _)
    · exact Nat.succ_le_succ (substRounds_length round fuel _ _)

theorem substRounds_pending_valid (round : Tr → Tr → Step) : ∀ (fuel : Nat) (current : Tr) (s : St),
    ∀ r ∈ substRounds round fuel current s, r.1.valid = true
  | 0, _, _, _, hr => nomatch hr
  | fuel + 1, current, s, r, hr => by
    revert hr
    rw [substRounds_succ]
    cases hv : s.core.request.valid
    · exact fun hr => nomatch hr
    cases current.ne ⟨255, s.core.request.dest, none⟩
    · exact substRounds_pending_valid round fuel _ _ r
    · intro hr
      rcases List.mem_cons.mp hr with rfl | hr
      · exact hv
      · exact substRounds_pending_valid round fuel _ _ r hr

theorem survivor_valid_or_init (current : Tr) (rounds : List (Tr × Bool)) (h : ∀ r ∈ rounds, r.1.valid = true) :
    survivor current rounds = current ∨ (survivor current rounds).valid = true :=
  (survivor_cases current rounds).imp_right fun ⟨r, hr, _, e⟩ => e ▸ h r hr

theorem substLoop_quiet (round : Tr → Tr → Step) (hst : ∀ c p, Stable (round c p)) (hnl : ∀ c p, NoLife (round c p)) :
    ∀ (fuel : Nat) (current : Tr) (s : St),
      (substLoop round fuel current s).1.1.core.active = s.core.active ∧
      (substLoop round fuel current s).2.filter Ev.isLife = [] :=
  sat_substLoop (J := fun s es s' => s'.core.active = s.core.active ∧ es.filter Ev.isLife = [])
    ⟨fun _ => ⟨rfl, rfl⟩, fun h1 h2 => ⟨h2.1.trans h1.1, by rw [List.filter_append, h1.2, h2.2]; rfl⟩⟩
    (fun c p s => ⟨(hst c p s).1, hnl c p s⟩) (fun _ => ⟨rfl, rfl⟩) (fun _ => ⟨rfl, rfl⟩)

theorem substLoop_sig (round : Tr → Tr → Step) (hst : ∀ c p, Stable (round c p)) (hnl : ∀ c p, NoLife (round c p))
    (fuel : Nat) (current : Tr) (s : St) : sig (substLoop round fuel current s).2 = [] :=
  sig_eq_nil_of_noLife (substLoop_quiet round hst hnl fuel current s).2

/-- `applySurvivor`: nothing when no request survived, otherwise exactly the change to its destination -/
theorem applySurvivor_spec (env : Env) (cur : Tr) (s : St) :
    (cur.valid = false → applySurvivor env cur s = (s, [])) ∧
    (cur.valid = true →
      (applySurvivor env cur s).1.core.active = cur.dest ∧
      sig (applySurvivor env cur s).2 =
        if cur.dest != s.core.active then [(Method.exit, s.core.active), (Method.enter, cur.dest)]
        else [(Method.reenter, s.core.active)]) := by
  unfold applySurvivor
  constructor
  · intro h; simp [h]
  · intro h
    simp only [h, if_true, Step.seq, modifyCore, List.nil_append]
    exact ⟨(changeToRequested_spec env cur _).1, (changeToRequested_spec env cur _).2.2⟩

theorem finishProcessing_spec (env : Env) (cur : Tr) (s : St) :
    (finishProcessing env cur s).1.core.active = s.core.active ∧
    (finishProcessing env cur s).1.core.requested = 255 ∧
    (env.cfg.history = true → (finishProcessing env cur s).1.core.prev = cur) ∧
    (finishProcessing env cur s).2 = [] := by
  unfold finishProcessing modifyCore
  exact ⟨rfl, rfl, fun h => by simp [h], rfl⟩

/-- the rounds evaluated by one `processRequest` (ghost) -/
def processRounds (env : Env) (s : St) : List (Tr × Bool) :=
  if s.core.request.valid then substRounds (guardRound env) (substFuel env.cfg.L) {} s else []

/-- a processing point is its guard rounds — which leave `active` alone and run no lifecycle callback — and then the
    applied change, run from where the rounds ended -/
theorem processRequest_split (env : Env) (s : St) : ∃ (S : St) (es : List Ev),
    (processRequest env s).1 = ((applySurvivor env (survivor {} (processRounds env s)) ⋙
      finishProcessing env (survivor {} (processRounds env s))) S).1 ∧
    (processRequest env s).2 = es ++ ((applySurvivor env (survivor {} (processRounds env s)) ⋙
      finishProcessing env (survivor {} (processRounds env s))) S).2 ∧
    S.core.active = s.core.active ∧ es.filter Ev.isLife = [] := by
  unfold processRequest processRounds
  by_cases hv : s.core.request.valid = true
  · simp only [hv, if_true]
    rw [← substLoop_current]
    exact ⟨_, _, rfl, rfl, substLoop_quiet (guardRound env) (stable_guardRound env) (noLife_guardRound env) _ {} s⟩
  · have hv' : s.core.request.valid = false := by simpa using hv
    simp only [hv', Bool.false_eq_true, if_false]
    exact ⟨s, [], rfl, rfl, rfl, rfl⟩

/-- **request processing** (`processRequest` + `processTransitions`): with `cur` = the last request
    that survived its guards (Q1: duplicate suppression happens inside `applyRequest`), the step
    applies exactly `cur`: nothing if there is none, `reenter` if it names the active state,
    `exit(old); enter(new)` otherwise; the registry's `requested` is cleared and the history records `cur`. -/
theorem processRequest_spec (env : Env) (s : St) :
    let cur := survivor {} (processRounds env s)
    let r := processRequest env s
    (processRounds env s).length ≤ substFuel env.cfg.L ∧
    r.1.core.requested = 255 ∧
    (env.cfg.history = true → r.1.core.prev = cur) ∧
    (cur.valid = false → r.1.core.active = s.core.active ∧ sig r.2 = []) ∧
    (cur.valid = true → r.1.core.active = cur.dest ∧
      sig r.2 = if cur.dest != s.core.active then [(Method.exit, s.core.active), (Method.enter, cur.dest)]
                else [(Method.reenter, s.core.active)]) := by
  obtain ⟨S, es, h1, h2, hact, hes⟩ := processRequest_split env s
  dsimp only
  generalize survivor {} (processRounds env s) = cur at h1 h2 ⊢
  obtain ⟨ha1, ha2⟩ := applySurvivor_spec env cur S
  have hf := finishProcessing_spec env cur (applySurvivor env cur S).1
  rw [h1, h2]
  simp only [Step.seq, sig_append, sig_eq_nil_of_noLife hes, hf.1, hf.2.2.2, List.nil_append, List.append_nil]
  refine ⟨?_, hf.2.1, hf.2.2.1, fun hcv => ?_, fun hcv => ?_⟩
  · unfold processRounds
    split
    · exact substRounds_length _ _ _ _
    · exact Nat.zero_le _
  · rw [ha1 hcv]; exact ⟨hact, rfl⟩
  · rw [(ha2 hcv).2, hact]; exact ⟨(ha2 hcv).1, rfl⟩

/-- the lifecycle part of a processing point: the applied change, run from where the loop ended -/
theorem processRequest_life (env : Env) (s : St) : ∃ S : St,
    (processRequest env s).1 = ((applySurvivor env (survivor {} (processRounds env s)) ⋙
      finishProcessing env (survivor {} (processRounds env s))) S).1 ∧
    ∀ e ∈ (processRequest env s).2, e.isLife = true →
      e ∈ ((applySurvivor env (survivor {} (processRounds env s)) ⋙ finishProcessing env (survivor {} (processRounds env s))) S).2 := by
  obtain ⟨S, es, h1, h2, _, hes⟩ := processRequest_split env s
  refine ⟨S, h1, fun e he hl => ?_⟩
  rw [h2] at he
  exact (List.mem_append.mp he).resolve_left fun he => List.filter_eq_nil_iff.mp hes e he hl

end FFSM2
