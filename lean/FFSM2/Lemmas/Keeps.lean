import FFSM2.Lemmas.Steps
/-! A range invariant of the machine's core that every building block keeps: the registry, the
    outstanding request and every task of the plan name real states (or nothing: 255), and the plan
    never exceeds its capacity.  This is what makes the ids handed to user code meaningful after any
    history (run-level theorems in `Lemmas/Reach.lean`). -/
namespace FFSM2
open Step Ancestors

def IdOr255 (n x : Nat) : Prop := x < n ∨ x = 255

structure CoreOk (cfg : Cfg) (c : Core) : Prop where
  active : IdOr255 cfg.n c.active
  requested : IdOr255 cfg.n c.requested
  request : IdOr255 cfg.n c.request.dest
  plan : ∀ t ∈ c.plan, t.origin < cfg.n ∧ t.dest < cfg.n
  planLen : c.plan.length ≤ cfg.cap

abbrev Keeps (Q : Core → Prop) (f : Step) : Prop := Sat (fun s _ s' => Q s.core → Q s'.core) f

theorem Keeps.seq {Q} {f g : Step} (hf : Keeps Q f) (hg : Keeps Q g) : Keeps Q (f ⋙ g) :=
  fun s h => hg _ (hf s h)
theorem keeps_skip (Q) : Keeps Q skip := fun _ h => h
theorem keeps_modify {Q} {m : St → St} (h : ∀ s, (m s).core = s.core) : Keeps Q (Step.modify m) := by
  intro s hs; simp only [Step.modify]; rw [h]; exact hs
theorem keeps_modifyCore {Q : Core → Prop} {m : Core → Core} (h : ∀ c, Q c → Q (m c)) : Keeps Q (modifyCore m) :=
  fun _ hs => h _ hs
theorem removeMasked_sublist : ∀ (l : List Task) (m : List Bool), (removeMasked l m).Sublist l
  | [], _ => by simp [removeMasked]
  | t :: ts, [] => by simp [removeMasked]
  | t :: ts, b :: bs => by
    simp only [removeMasked]
    split
    · exact (removeMasked_sublist ts bs).cons t
    · exact (removeMasked_sublist ts bs).cons_cons t

/-- the invariant reads nothing but the registry, the request's destination and the plan -/
theorem CoreOk.congr {cfg : Cfg} {c c' : Core} (h : CoreOk cfg c)
    (e : (c'.active, c'.requested, c'.request.dest, c'.plan) = (c.active, c.requested, c.request.dest, c.plan)) :
    CoreOk cfg c' := by
  injection e with e1 e; injection e with e2 e; injection e with e3 e4
  exact ⟨e1 ▸ h.active, e2 ▸ h.requested, e3 ▸ h.request, e4 ▸ h.plan, e4 ▸ h.planLen⟩

theorem CoreOk.registry {cfg : Cfg} {c : Core} (h : CoreOk cfg c) {a r : Nat} {q : Tr} (ha : IdOr255 cfg.n a)
    (hr : IdOr255 cfg.n r) (hq : IdOr255 cfg.n q.dest) : CoreOk cfg { c with active := a, requested := r, request := q } :=
  ⟨ha, hr, hq, h.plan, h.planLen⟩

theorem CoreOk.noPlan {cfg : Cfg} {c c' : Core} (h : CoreOk cfg c)
    (e : (c'.active, c'.requested, c'.request.dest, c'.plan) = (c.active, c.requested, c.request.dest, [])) : CoreOk cfg c' := by
  injection e with e1 e; injection e with e2 e; injection e with e3 e4
  exact ⟨e1 ▸ h.active, e2 ▸ h.requested, e3 ▸ h.request, (by rw [e4]; intro t ht; cases ht), (by rw [e4]; exact Nat.zero_le _)⟩

theorem coreOk_wipe {cfg : Cfg} {c : Core} (h : CoreOk cfg c) (cfg' : Cfg) : CoreOk cfg (wipe cfg' c) := by
  unfold wipe planDataClear
  dsimp only
  split <;> split <;> first | exact h.congr rfl | exact h.noPlan rfl

theorem coreOk_clearTaskStatus {cfg : Cfg} (id : Nat) {c : Core} (h : CoreOk cfg c) : CoreOk cfg (clearTaskStatus cfg id c) := by
  rw [clearTaskStatus_eq]; exact h.congr rfl

/-- a permitted action keeps the invariant: destinations are validated by the control's API surface.  Two ids because a
    plan edit made from outside is checked as state 0's (`permitted … 0`) but applied with origin 255. -/
theorem keeps_applyAction (env : Env) (fl : Flavour) (sid sid' : Nat) (a : Action) (hp : permitted env.cfg fl sid' a = true) :
    Keeps (CoreOk env.cfg) (applyAction env sid a) := by
  intro s h
  cases a with
  | changeTo d =>
    simp only [permitted, idOk, Bool.and_eq_true, decide_eq_true_eq] at hp
    exact h.registry h.active h.requested (Or.inl hp.2)
  | changeWith d p =>
    simp only [permitted, idOk, Bool.and_eq_true, decide_eq_true_eq] at hp
    exact h.registry h.active h.requested (Or.inl hp.1.2)
  | planAppend o d p =>
    simp only [permitted, idOk, Bool.and_eq_true, decide_eq_true_eq] at hp
    rw [applyAction_planAppend]
    refine ⟨h.active, h.requested, h.request, ?_, ?_⟩ <;> dsimp only <;> split
    · exact fun t ht => (List.mem_append.mp ht).elim (h.plan t) fun e => by cases List.mem_singleton.mp e; exact ⟨hp.1.1.2, hp.1.2⟩
    · exact h.plan
    · rw [List.length_append]; assumption
    · exact h.planLen
  | planClear => exact h.noPlan rfl
  | planRemove m =>
    exact ⟨h.active, h.requested, h.request, fun t ht => h.plan t ((removeMasked_sublist _ _).subset ht),
      Nat.le_trans (removeMasked_sublist _ _).length_le h.planLen⟩
  | _ => exact h.congr rfl

theorem keeps_composes (Q : Core → Prop) : Composes (fun s _ s' => Q s.core → Q s'.core) := ⟨fun _ h => h, fun h1 h2 h => h2 (h1 h)⟩

theorem keeps_deliver (env : Env) (m : Method) (sid : Nat) (cur pend : Tr) :
    Keeps (CoreOk env.cfg) (deliver env m sid cur pend) :=
  sat_deliver (keeps_composes _) (fun _ h => h) (fun _ _ h => h) (fun _ _ a s _ hp => keeps_applyAction env _ sid sid a hp s)

section blocks
variable (env : Env)

theorem keeps_exitActive (cur : Tr) : Keeps (CoreOk env.cfg) (exitActive env cur) :=
  sat_reading _ fun a => Keeps.seq (keeps_deliver env .exit a cur {}) (keeps_modifyCore fun _ h => coreOk_clearTaskStatus a h)

theorem keeps_deepEnter (cur : Tr) : Keeps (CoreOk env.cfg) (deepEnter env cur) := by
  rw [deepEnter_eq]
  exact Keeps.seq (Keeps.seq (keeps_modifyCore fun _ h => h.registry h.requested (.inr rfl) h.request) (keeps_deliver env _ _ _ _))
    (sat_reading _ fun a => keeps_deliver env .enter a cur {})

theorem keeps_deepExit (cur : Tr) : Keeps (CoreOk env.cfg) (deepExit env cur) := by
  rw [deepExit_eq]
  refine Keeps.seq (Keeps.seq (Keeps.seq (keeps_exitActive env cur) (keeps_deliver env _ _ _ _))
    (keeps_modifyCore fun _ h => h.registry (.inr rfl) h.requested h.request)) (keeps_modifyCore fun c h => ?_)
  split
  · exact h.noPlan rfl
  · exact h

theorem keeps_changeToRequested (cur : Tr) : Keeps (CoreOk env.cfg) (changeToRequested env cur) := by
  rw [changeToRequested_eq]
  exact sat_ite _
    (Keeps.seq (Keeps.seq (keeps_exitActive env cur) (keeps_modifyCore fun _ h => h.registry h.requested (.inr rfl) h.request))
      (sat_reading _ fun a => keeps_deliver env .enter a cur {}))
    (Keeps.seq (keeps_modifyCore fun _ h => h.registry h.active (.inr rfl) h.request)
      (sat_reading _ fun a => keeps_deliver env .reenter a cur {}))

theorem keeps_guardRound (cur pend : Tr) : Keeps (CoreOk env.cfg) (guardRound env cur pend) := by
  rw [guardRound_eq]
  exact Keeps.seq (Keeps.seq (keeps_modify fun _ => rfl) (sat_reading _ fun a => keeps_deliver env .exitGuard a cur pend))
    (sat_ite _ (keeps_skip _) (sat_reading _ fun a => keeps_deliver env .entryGuard a cur pend))

theorem keeps_entryGuardRound (cur pend : Tr) : Keeps (CoreOk env.cfg) (entryGuardRound env cur pend) := by
  rw [entryGuardRound_eq]
  exact Keeps.seq (Keeps.seq (keeps_modify fun _ => rfl) (keeps_deliver env _ _ _ _))
    (sat_ite _ (keeps_skip _) (sat_reading _ fun a => keeps_deliver env .entryGuard a cur pend))

/-- the substitution loop keeps the invariant, and the transition it accepts names a real state (or nothing) -/
theorem keeps_substLoop {cfg : Cfg} (round : Tr → Tr → Step) (hr : ∀ c p, Keeps (CoreOk cfg) (round c p)) :
    ∀ (fuel : Nat) (cur : Tr) (s : St), CoreOk cfg s.core → IdOr255 cfg.n cur.dest →
      CoreOk cfg (substLoop round fuel cur s).1.1.core ∧ IdOr255 cfg.n (substLoop round fuel cur s).1.2.dest
  | 0, _, _ => fun h hc => ⟨h, hc⟩
  | fuel + 1, cur, s => by
    intro h hc
    rw [substLoop_succ]
    cases s.core.request.valid
    · exact ⟨h, hc⟩
    cases cur.ne ⟨255, s.core.request.dest, none⟩
    · exact keeps_substLoop round hr fuel _ _ (h.registry h.active h.requested (.inr rfl)) hc
    · refine keeps_substLoop round hr fuel _ _ (hr _ _ _ (h.registry h.active h.request (.inr rfl))) ?_
      split
      · exact hc
      · exact h.request

theorem keeps_substThen {round : Tr → Tr → Step} (hr : ∀ c p, Keeps (CoreOk env.cfg) (round c p)) (fuel : Nat)
    {k : Tr → Step} (hk : ∀ t, IdOr255 env.cfg.n t.dest → Keeps (CoreOk env.cfg) (k t)) :
    Keeps (CoreOk env.cfg) (substThen round fuel k) := fun s h =>
  have ⟨h1, h2⟩ := keeps_substLoop round hr fuel {} s h (.inr rfl)
  hk _ h2 _ h1

theorem keeps_applySurvivor (cur : Tr) (hc : IdOr255 env.cfg.n cur.dest) : Keeps (CoreOk env.cfg) (applySurvivor env cur) :=
  sat_ite (fun _ => cur.valid)
    (Keeps.seq (keeps_modifyCore fun _ h => h.registry h.active hc h.request) (keeps_changeToRequested env cur)) (keeps_skip _)

theorem keeps_finishProcessing (cur : Tr) : Keeps (CoreOk env.cfg) (finishProcessing env cur) :=
  keeps_modifyCore fun _ h => (h.registry h.active (.inr rfl) h.request).congr rfl

theorem keeps_processRequest : Keeps (CoreOk env.cfg) (processRequest env) := by
  rw [processRequest_eq]
  exact sat_ite _
    (keeps_substThen env (keeps_guardRound env) _ fun t ht => Keeps.seq (keeps_applySurvivor env t ht) (keeps_finishProcessing env t))
    (keeps_finishProcessing env {})

theorem keeps_enterSurvivor (hn : 1 ≤ env.cfg.n) (cur : Tr) (hc : IdOr255 env.cfg.n cur.dest) :
    Keeps (CoreOk env.cfg) (enterSurvivor env cur) := by
  unfold enterSurvivor
  refine Keeps.seq (Keeps.seq (keeps_modifyCore fun c h => ?_) (keeps_deepEnter env cur))
    (keeps_modifyCore fun _ h => h.registry h.active (.inr rfl) h.request)
  refine (h.registry h.active (r := if cur.valid then cur.dest else 0) ?_ h.request).congr rfl
  split
  · exact hc
  · exact Or.inl hn

theorem coreOk_applyRequest {cfg : Cfg} (cur : Tr) {d : Nat} (hd : IdOr255 cfg.n d) {c : Core} (h : CoreOk cfg c) :
    CoreOk cfg (applyRequest cur d c).1 := by
  unfold applyRequest
  split
  · exact h.registry h.active hd h.request
  · exact h

theorem keeps_initialEnter (hn : 1 ≤ env.cfg.n) : Keeps (CoreOk env.cfg) (initialEnter env) := by
  rw [initialEnter_eq]
  exact Keeps.seq (Keeps.seq (keeps_modifyCore fun _ h => coreOk_applyRequest {} (Or.inl hn) h) (keeps_entryGuardRound env {} {}))
    (keeps_substThen env (keeps_entryGuardRound env) _ (keeps_enterSurvivor env hn))

theorem keeps_finalExit : Keeps (CoreOk env.cfg) (finalExit env) := by
  rw [finalExit_eq]
  exact Keeps.seq (keeps_deepExit env _) (Keeps.seq (keeps_modifyCore fun _ h => h.registry (.inr rfl) (.inr rfl) (.inr rfl))
    (keeps_modifyCore fun _ h => coreOk_wipe h _))

theorem keeps_phase (m : Method) (hf : Bool) : Keeps (CoreOk env.cfg) (phase env m hf) :=
  sat_phase (keeps_composes _) (fun _ => keeps_deliver env _ _ _ _) (fun _ h => h.congr rfl) (fun _ h => h) hf

theorem keeps_planStep : Keeps (CoreOk env.cfg) (planStep env) := by
  have out : ∀ st m, Keeps (CoreOk env.cfg) (planOutcome env st m) := fun st m =>
    Keeps.seq (Keeps.seq (keeps_modify fun _ => rfl) (keeps_deliver env _ _ _ _)) (keeps_modifyCore fun _ h => h.noPlan rfl)
  have fire : Keeps (CoreOk env.cfg) (fireStep env) := fun s h => by
    obtain ⟨q, su, kept, e, hq, hk, _⟩ := fireStep_shape env s
    rw [e]
    exact ⟨h.active, h.requested, hq.elim (fun e => e ▸ h.request) fun ⟨t, ht, e⟩ => e ▸ Or.inl (h.plan t ht).2,
      fun t ht => h.plan t (hk.subset ht), Nat.le_trans hk.length_le h.planLen⟩
  exact sat_planStep (keeps_composes _) (out _ _) (out _ _) fire fun _ h => h.congr rfl

theorem keeps_cycle (pre mid post : Method) : Keeps (CoreOk env.cfg) (cycle env pre mid post) :=
  sat_cycle (keeps_composes _) (fun _ h => h) (keeps_phase env) (keeps_planStep env) (keeps_processRequest env) pre mid post

theorem keeps_query : Keeps (CoreOk env.cfg) (query env) := sat_query (keeps_composes _) fun _ => keeps_deliver env _ _ _ _

theorem keeps_extChange (d : Nat) (hd : d < env.cfg.n) (p : Option Nat) : Keeps (CoreOk env.cfg) (extChange env d p) :=
  fun _ h => h.registry h.active h.requested (Or.inl hd)

theorem keeps_extStatus (id : Nat) (ok : Bool) : Keeps (CoreOk env.cfg) (extStatus env id ok) := fun s h => by
  cases ok <;> exact h.congr rfl

theorem keeps_replayTransition (d : Nat) (hd : d < env.cfg.n) : Keeps (CoreOk env.cfg) (replayTransition env d) := by
  unfold replayTransition
  exact Keeps.seq (Keeps.seq (Keeps.seq (keeps_modifyCore fun _ h => h.congr rfl)
    (keeps_modifyCore fun _ h => (coreOk_applyRequest {} (Or.inl hd) h).congr rfl)) (keeps_changeToRequested env _))
    (keeps_modifyCore fun _ h => h.registry h.active (.inr rfl) h.request)

theorem keeps_replayEnter (d : Nat) (hd : d < env.cfg.n) : Keeps (CoreOk env.cfg) (replayEnter env d) := by
  unfold replayEnter
  exact Keeps.seq (Keeps.seq (keeps_modifyCore fun _ h => (coreOk_applyRequest {} (Or.inl hd) h).congr rfl) (keeps_deepEnter env _))
    (keeps_modifyCore fun _ h => h.registry h.active (.inr rfl) h.request)

theorem keeps_loadActive (r : Nat) (hr : IdOr255 env.cfg.n r) : Keeps (CoreOk env.cfg) (loadActive env r) := by
  rw [loadActive_eq]
  exact Keeps.seq (Keeps.seq (keeps_modifyCore fun _ h => h.registry h.active hr (.inr rfl)) (keeps_modifyCore fun _ h => coreOk_wipe h _))
    (keeps_changeToRequested env _)

end blocks

end FFSM2
