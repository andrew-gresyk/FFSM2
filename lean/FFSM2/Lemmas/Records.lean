import FFSM2.Lemmas.World
import FFSM2.Lemmas.Delivery
import FFSM2.Lemmas.Lifecycle
/-! Method records are faithful: in the trace of every building block — and so of every API call and every
    history — each method record `log i (method sid m)` is immediately followed by a delivery event of that very
    instance, state and method.  `Closed es`: a small automaton run over the trace accepts (no record is left
    pending at the end, none was followed by anything but its delivery); concatenation of closed traces is closed,
    which makes the property compositional. -/
namespace FFSM2
open Step Ancestors

def Ev.isMethodLog : Ev → Bool
  | .log _ (.method _ _) => true
  | _ => false

/-- the record waiting for its delivery (instance, state, method) and the verdict so far -/
abbrev RecSt := Option (Nat × Nat × Method) × Bool

def recStep : RecSt → Ev → RecSt
  | (some (i, sid, m), ok), .cb k _ _ => (none, ok && k.inst == i && k.sid == sid && k.method == m)
  | (some _, _), .log i (.method sid m) => (some (i, sid, m), false)
  | (some _, _), _ => (none, false)
  | (none, ok), .log i (.method sid m) => (some (i, sid, m), ok)
  | (none, ok), _ => (none, ok)

/-- every method record of the trace is immediately followed by the delivery it names -/
def Closed (es : List Ev) : Prop := es.foldl recStep (none, true) = (none, true)

theorem closed_nil : Closed [] := rfl

theorem closed_append {a b : List Ev} (ha : Closed a) (hb : Closed b) : Closed (a ++ b) := by
  unfold Closed at *
  rw [List.foldl_append, ha, hb]

theorem recStep_noM {e : Ev} (h : e.isMethodLog = false) : recStep (none, true) e = (none, true) := by
  cases e with
  | log i r => cases r <;> first | rfl | (simp [Ev.isMethodLog] at h)
  | _ => rfl

theorem closed_noM {es : List Ev} (h : ∀ e ∈ es, e.isMethodLog = false) : Closed es :=
  foldl_fixed fun e he => recStep_noM (h e he)

/-- a record followed by its delivery and then by anything record-free -/
theorem closed_record (k : Key) (vis : Bool) (o : Obs) (rest : List Ev) (hr : ∀ e ∈ rest, e.isMethodLog = false) :
    Closed (Ev.log k.inst (.method k.sid k.method) :: Ev.cb k vis o :: rest) := by
  unfold Closed
  simp only [List.foldl_cons, recStep, beq_self_eq_true, Bool.and_self]
  exact closed_noM hr

def ClosedStep (f : Step) : Prop := ∀ s, Closed (f s).2
def NoM (f : Step) : Prop := ∀ s, ∀ e ∈ (f s).2, e.isMethodLog = false

theorem NoM.closed {f : Step} (h : NoM f) : ClosedStep f := fun s => closed_noM (h s)

theorem isMethodLog_log {i : Nat} {r : LogRec} (hr : r.isMethod = false) : (Ev.log i r).isMethodLog = false := by
  cases r <;> first | rfl | cases hr

theorem noM_fromActions {env : Env} {key : Key} {e : Ev} (h : FromActions env key e) : e.isMethodLog = false := by
  cases h with
  | act a => rfl
  | log r hr => exact isMethodLog_log hr

/-- **a delivery**: its record (if any) is immediately followed by its first layer's delivery event -/
theorem closed_deliver (env : Env) (m : Method) (sid : Nat) (cur pend : Tr) : ClosedStep (deliver env m sid cur pend) := by
  intro s
  obtain ⟨rest, h, ht⟩ := deliver_trace env m sid cur pend s
  have hall : ∀ e ∈ rest, e.isMethodLog = false := ht.forall (fun _ _ _ => rfl) fun _ _ _ h => noM_fromActions h
  rw [h]
  split
  · unfold logEv
    split
    · generalize hd : deep (env.cfg.injections sid) m = ls at ht
      cases ht with
      | nil => exact absurd hd (deep_ne_nil _ _)
      | cons => exact closed_record _ _ _ _ fun e he => hall e (List.mem_cons_of_mem _ he)
    · exact closed_noM hall
  · exact closed_noM hall

/-- above `deliver`: closed traces concatenate, and a log record that is no method record is closed by itself -/
theorem Made.closed {env : Env} {A} {es : List Ev} (h : Made env A es) : Closed es := by
  induction h with
  | nil => exact closed_nil
  | append _ _ iha ihb => exact closed_append iha ihb
  | deliver m sid cur pend s _ => exact closed_deliver env m sid cur pend s
  | log c r hr => exact closed_noM (forall_mem_logEv (isMethodLog_log hr))

theorem closed_callEnd {i k : Nat} {b : Ev} (h : CallEnd i k b) : Closed [b] :=
  closed_noM (List.forall_mem_singleton.mpr (by cases h <;> rfl))

theorem stepAll_closed (cfg : Cfg) (beh : Beh) (w : World) (k : Nat) (op : Op) : Closed (stepAll cfg beh w k op).2 := by
  obtain ⟨es, b, e, hm, hb⟩ := stepAll_made cfg beh w k op
  rw [e]
  exact closed_append hm.closed (closed_callEnd hb)

theorem runFrom_closed (cfg : Cfg) (beh : Beh) : ∀ (ops : List Op) (w : World) (k : Nat), Closed (runFrom cfg beh w k ops).2 :=
  runFrom_trace cfg beh closed_nil closed_append (stepAll_closed cfg beh)

end FFSM2
