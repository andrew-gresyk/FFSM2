import FFSM2.Ancestors
/-! `wideFwd` / `wideRev`, the translated recursions of `A_<First, Rest...>::wideX`, are the list and its reverse. -/
namespace FFSM2
open Ancestors

theorem wideFwd_eq (l : List Layer) : wideFwd l = l := by
  induction l with
  | nil => rfl
  | cons x xs ih => simp [wideFwd, ih]

theorem wideRev_eq (l : List Layer) : wideRev l = l.reverse := by
  induction l with
  | nil => rfl
  | cons x xs ih => simp [wideRev, ih]

end FFSM2
