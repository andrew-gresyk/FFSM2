import FFSM2.Lemmas.World
import FFSM2.Lemmas.Delivery
import FFSM2.Lemmas.Lifecycle
/-! Every delivery of every trace is a whole block: the callbacks of the injected bases and of the state itself, each
    exactly once, in the order of the (translated) call-order tables `Ancestors.deep`.  `Blocks cfg sig`: the sequence of
    `(method, state, layer)` of all delivery events of a trace is a concatenation of such blocks. -/
namespace FFSM2
open Step Ancestors

def layerSigEv : Ev → Option (Method × Nat × Layer)
  | .cb k _ _ => some (k.method, k.sid, k.layer)
  | _ => none

/-- `(method, state, layer)` of every delivery event, in order -/
def layerSig (es : List Ev) : List (Method × Nat × Layer) := es.filterMap layerSigEv

@[simp] theorem layerSig_nil : layerSig [] = [] := rfl
theorem layerSig_append (a b : List Ev) : layerSig (a ++ b) = layerSig a ++ layerSig b := by simp [layerSig]

/-- one whole delivery of `m` to `sid` -/
def block (cfg : Cfg) (m : Method) (sid : Nat) : List (Method × Nat × Layer) :=
  (deep (cfg.injections sid) m).map (fun l => (m, sid, l))

/-- a concatenation of whole deliveries -/
inductive Blocks (cfg : Cfg) : List (Method × Nat × Layer) → Prop
  | nil : Blocks cfg []
  | cons (m : Method) (sid : Nat) {rest : List (Method × Nat × Layer)} : Blocks cfg rest → Blocks cfg (block cfg m sid ++ rest)

theorem Blocks.append {cfg : Cfg} {a b : List (Method × Nat × Layer)} (ha : Blocks cfg a) (hb : Blocks cfg b) : Blocks cfg (a ++ b) := by
  induction ha with
  | nil => exact hb
  | cons m sid _ ih => rw [List.append_assoc]; exact Blocks.cons m sid ih

/-- **a delivery is one whole block**: every layer of `deep`, once, in that order -/
theorem layerSig_deliver (env : Env) (m : Method) (sid : Nat) (cur pend : Tr) (s : St) :
    layerSig (deliver env m sid cur pend s).2 = block env.cfg m sid :=
  (deliver_filterMap (φ := layerSigEv) (ψ := fun l => some (m, sid, l)) (fun _ _ => rfl) (fun _ _ => rfl) (fun _ _ _ => rfl) s).trans
    (congrFun List.filterMap_eq_map' _)

/-- above `deliver`: blocks concatenate, and log records contribute no delivery -/
theorem Made.blocks {env : Env} {A} {es : List Ev} (h : Made env A es) : Blocks env.cfg (layerSig es) := by
  induction h with
  | nil => exact Blocks.nil
  | append _ _ iha ihb => rw [layerSig_append]; exact Blocks.append iha ihb
  | deliver m sid cur pend s _ => rw [layerSig_deliver, ← List.append_nil (block _ m sid)]; exact Blocks.cons m sid Blocks.nil
  | log c r _ => rw [layerSig, List.filterMap_eq_nil_iff.mpr (forall_mem_logEv rfl)]; exact Blocks.nil

theorem layerSig_inner : Inner layerSig := inner_filterMap layerSigEv fun h => by cases h <;> rfl

theorem stepAll_blocks (cfg : Cfg) (beh : Beh) (w : World) (k : Nat) (op : Op) : Blocks cfg (layerSig (stepAll cfg beh w k op).2) := by
  obtain ⟨es, b, e, hm, hb⟩ := stepAll_made cfg beh w k op
  rw [e, layerSig_inner es hb]
  exact hm.blocks

theorem runFrom_blocks (cfg : Cfg) (beh : Beh) : ∀ (ops : List Op) (w : World) (k : Nat), Blocks cfg (layerSig (runFrom cfg beh w k ops).2) :=
  runFrom_trace cfg beh (T := fun es => Blocks cfg (layerSig es)) Blocks.nil
    (fun h1 h2 => by rw [layerSig_append]; exact Blocks.append h1 h2) (stepAll_blocks cfg beh)

end FFSM2
