import FFSM2.Lemmas.Sat
/-! Helper lemmas about the machine model: which steps leave the registry alone, which events they
    emit.  Property statements live in `FFSM2/Props/*.lean`. -/
namespace FFSM2
open Step Ancestors

def Method.isLife : Method → Bool
  | .enter | .exit | .reenter => true
  | _ => false

def Method.isGuard : Method → Bool
  | .entryGuard | .exitGuard => true
  | _ => false

def Ev.isCb : Ev → Bool
  | .cb .. => true
  | _ => false

def Ev.isLife : Ev → Bool
  | .cb k _ _ => k.method.isLife
  | _ => false

def Ev.isGuard : Ev → Bool
  | .cb k _ _ => k.method.isGuard
  | _ => false

structure MethodPred (p : Ev → Bool) : Prop where
  onlyCb : ∀ e, p e = true → e.isCb = true

theorem methodPred_isLife : MethodPred Ev.isLife :=
  ⟨fun e h => by cases e <;> first | rfl | cases h⟩
theorem methodPred_isCb : MethodPred Ev.isCb := ⟨fun _ h => h⟩
theorem methodPred_isGuard : MethodPred Ev.isGuard :=
  ⟨fun e h => by cases e <;> first | rfl | cases h⟩

theorem MethodPred.not_cb {p : Ev → Bool} (hp : MethodPred p) {e : Ev} (he : e.isCb = false) : p e = false := by
  cases h : p e
  · rfl
  · rw [hp.onlyCb e h] at he; cases he

def Stable (f : Step) : Prop :=
  ∀ s, (f s).1.core.active = s.core.active ∧ (f s).1.core.requested = s.core.requested

def KeepsActive (f : Step) : Prop := ∀ s, (f s).1.core.active = s.core.active

theorem Stable.keepsActive {f : Step} (h : Stable f) : KeepsActive f := fun s => (h s).1

def Silent (p : Ev → Bool) (f : Step) : Prop := ∀ s, (f s).2.filter p = []

abbrev NoLife := Silent Ev.isLife
abbrev NoGuard := Silent Ev.isGuard

def Excl (p : Ev → Bool) (m : Method) : Prop := ∀ (k : Key) vis o, k.method = m → p (.cb k vis o) = false

structure ExclCore (p : Ev → Bool) : Prop where
  exitGuard : Excl p .exitGuard
  entryGuard : Excl p .entryGuard
  enter : Excl p .enter
  exit : Excl p .exit
  reenter : Excl p .reenter

theorem KeepsActive.seq {f g : Step} (hf : KeepsActive f) (hg : KeepsActive g) : KeepsActive (f ⋙ g) := by
  intro s; simp only [Step.seq]; exact (hg _).trans (hf s)

theorem Silent.seq {p : Ev → Bool} {f g : Step} (hf : Silent p f) (hg : Silent p g) : Silent p (f ⋙ g) := by
  intro s; simp only [Step.seq, List.filter_append, hf s, hg _, List.append_nil]

theorem silent_skip (p : Ev → Bool) : Silent p skip := fun _ => rfl
theorem silent_emit {p : Ev → Bool} {e : St → List Ev} (h : ∀ s, (e s).filter p = []) : Silent p (emit e) := fun s => h s
theorem silent_modify (p : Ev → Bool) (m : St → St) : Silent p (modify m) := fun _ => rfl
theorem keepsActive_modifyCore {m : Core → Core} (h : ∀ c, (m c).active = c.active) :
    KeepsActive (modifyCore m) := fun s => h s.core
theorem silent_modifyCore (p : Ev → Bool) (m : Core → Core) : Silent p (modifyCore m) := fun _ => rfl

theorem keepsActive_dep {g : St → Step} (h : ∀ s0, KeepsActive (g s0)) : KeepsActive (fun s => g s s) := fun s => h s s
theorem silent_dep {p : Ev → Bool} {g : St → Step} (h : ∀ s0, Silent p (g s0)) : Silent p (fun s => g s s) := fun s => h s s

theorem filter_logEv {p : Ev → Bool} (hp : MethodPred p) (env : Env) (c : Core) (r : LogRec) :
    (logEv env c r).filter p = [] :=
  filter_eq_nil_of_false (forall_mem_logEv (hp.not_cb rfl))

/-- the part of the core out of reach of every control: the registry, the history, the sub-status and the logger -/
structure Frame (c c' : Core) : Prop where
  active : c'.active = c.active
  requested : c'.requested = c.requested
  prev : c'.prev = c.prev
  subStatus : c'.subStatus = c.subStatus
  logger : c'.logger = c.logger

theorem Frame.refl (c : Core) : Frame c c := ⟨rfl, rfl, rfl, rfl, rfl⟩
theorem Frame.trans {a b c : Core} (h1 : Frame a b) (h2 : Frame b c) : Frame a c :=
  ⟨h2.active.trans h1.active, h2.requested.trans h1.requested, h2.prev.trans h1.prev, h2.subStatus.trans h1.subStatus,
   h2.logger.trans h1.logger⟩

def Framed (f : Step) : Prop := ∀ s, Frame s.core (f s).1.core

theorem frame_composes : Composes (fun s _ s' => Frame s.core s'.core) := ⟨fun _ => .refl _, fun h1 h2 => h1.trans h2⟩

theorem framed_applyAction (env : Env) (sid : Nat) (a : Action) : Framed (applyAction env sid a) := by
  intro s
  cases a with
  | planAppend o d p => rw [applyAction_planAppend]; exact ⟨rfl, rfl, rfl, rfl, rfl⟩
  | _ => exact ⟨rfl, rfl, rfl, rfl, rfl⟩

/-- **a delivery never touches the registry, the history, the sub-status or the logger**, whatever the callbacks do -/
theorem framed_deliver (env : Env) (m : Method) (sid : Nat) (cur pend : Tr) : Framed (deliver env m sid cur pend) :=
  sat_deliver frame_composes (fun _ => .refl _) (fun _ _ => .refl _) (fun _ _ a s _ _ => framed_applyAction env sid a s)

/-- **no action of any control flavour writes the registry** -/
theorem stable_applyAction (env : Env) (sid : Nat) (a : Action) : Stable (applyAction env sid a) :=
  fun s => ⟨(framed_applyAction env sid a s).active, (framed_applyAction env sid a s).requested⟩

theorem stable_deliver (env : Env) (m : Method) (sid : Nat) (cur pend : Tr) : Stable (deliver env m sid cur pend) :=
  fun s => ⟨(framed_deliver env m sid cur pend s).active, (framed_deliver env m sid cur pend s).requested⟩

theorem life_excludes {m : Method} (h : m.isLife = false) : Excl Ev.isLife m := by
  intro k _ _ hk; simp [Ev.isLife, hk, h]
theorem guard_excludes {m : Method} (h : m.isGuard = false) : Excl Ev.isGuard m := by
  intro k _ _ hk; simp [Ev.isGuard, hk, h]

/-- `Stable` is `Sat` of this judgment, by unfolding -/
theorem stable_sees : Sees (fun s => (s.core.active, s.core.requested))
    (fun s _ s' => s'.core.active = s.core.active ∧ s'.core.requested = s.core.requested) where
  nil _ := ⟨rfl, rfl⟩
  app h1 h2 := ⟨h2.1.trans h1.1, h2.2.trans h1.2⟩
  silent h := ⟨congrArg Prod.fst h, congrArg Prod.snd h⟩

/-- **guard evaluation is pure** w.r.t. the registry -/
theorem stable_guardRound (env : Env) (cur pend : Tr) : Stable (guardRound env cur pend) :=
  sees_guardRound stable_sees (fun _ _ _ => rfl) fun _ _ _ => stable_deliver env _ _ _ _

theorem stable_entryGuardRound (env : Env) (cur pend : Tr) : Stable (entryGuardRound env cur pend) :=
  sees_entryGuardRound stable_sees (fun _ _ _ => rfl) fun _ _ _ => stable_deliver env _ _ _ _

theorem planStep_skip (env : Env) (s : St) (h : (cycleStatus s != .none && s.core.planExists) = false) :
    planStep env s = ({ s with core := { s.core with subStatus := .none } }, []) := by
  rw [planStep_eq, seq_modifyCore]
  dsimp only
  rw [if_neg (by rw [h]; exact Bool.false_ne_true)]
  rfl

end FFSM2
