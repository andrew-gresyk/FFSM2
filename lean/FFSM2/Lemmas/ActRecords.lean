import FFSM2.Lemmas.World
import FFSM2.Lemmas.Lifecycle
/-! Action records are faithful: with a logger attached, every request (`changeTo` / `changeWith`), every guard
    cancellation and every task status report user code performs is immediately followed by exactly its record — the
    caller as origin, the requested destination / the reported state — in the order the actions occur.  `AClosed`: an
    automaton over the trace; `LClosed env f`: the step keeps the logger attachment and, when logging is on, its trace is
    accepted.  Records that follow no action (plan firings, requests made from outside) are allowed: the automaton only
    insists that an action's record comes next. -/
namespace FFSM2
open Step Ancestors

/-- the record an action must be followed by (performed by a callback of state `sid`) -/
def actRecord (sid : Nat) : Action → Option LogRec
  | .changeTo d => some (.transition sid d)
  | .changeWith d _ => some (.transition sid d)
  | .cancel => some (.cancelled sid)
  | .succeed id => some (.taskStatus (id.getD sid) true)
  | .fail id => some (.taskStatus (id.getD sid) false)
  | _ => none

abbrev ASt := Option (Nat × LogRec) × Bool

def aStep : ASt → Ev → ASt
  | (some (i, r), ok), .log j r' => (none, ok && i == j && r == r')
  | (some _, _), _ => (none, false)
  | (none, ok), .act k a =>
    match actRecord k.sid a with
    | some r => (some (k.inst, r), ok)
    | none => (none, ok)
  | (none, ok), _ => (none, ok)

def AClosed (es : List Ev) : Prop := es.foldl aStep (none, true) = (none, true)

def Ev.isAct : Ev → Bool
  | .act .. => true
  | _ => false

theorem aclosed_nil : AClosed [] := rfl
theorem aclosed_append {a b : List Ev} (ha : AClosed a) (hb : AClosed b) : AClosed (a ++ b) := by
  unfold AClosed at *; rw [List.foldl_append, ha, hb]

theorem aStep_noAct {e : Ev} (h : e.isAct = false) : aStep (none, true) e = (none, true) := by
  cases e <;> first | rfl | (simp [Ev.isAct] at h)

theorem aclosed_noAct {es : List Ev} (h : ∀ e ∈ es, e.isAct = false) : AClosed es :=
  foldl_fixed fun e he => aStep_noAct (h e he)

/-- keeps the logger attachment; with logging on and a logger attached, the trace is accepted -/
abbrev Logged (env : Env) (s : St) (es : List Ev) (s' : St) : Prop :=
  s'.core.logger = s.core.logger ∧ (env.cfg.logging = true → s.core.logger = true → AClosed es)

abbrev LClosed (env : Env) : Step → Prop := Sat (Logged env)

theorem lclosed_sees (env : Env) : Sees (fun s => s.core.logger) (Logged env) where
  nil _ := ⟨rfl, fun _ _ => aclosed_nil⟩
  app h1 h2 := ⟨h2.1.trans h1.1, fun hl hs => aclosed_append (h1.2 hl hs) (h2.2 hl (h1.1.trans hs))⟩
  silent h := ⟨h, fun _ _ => aclosed_nil⟩

theorem logger_ignored : IgnoresFlow fun s => s.core.logger := fun _ _ _ _ _ _ _ _ _ _ => rfl

theorem LClosed.seq {env : Env} {f g : Step} (hf : LClosed env f) (hg : LClosed env g) : LClosed env (f ⋙ g) :=
  Sat.seq (lclosed_sees env).toComposes hf hg

theorem logEv_on (env : Env) (c : Core) (r : LogRec) (hl : env.cfg.logging = true) (hc : c.logger = true) :
    logEv env c r = [.log env.inst r] := by simp [logEv, hl, hc]

/-- `actRecord` names the record the action writes -/
theorem applyAction_log (env : Env) (sid : Nat) (a : Action) (s : St) :
    (applyAction env sid a s).2 = match actRecord sid a with | some r => logEv env s.core r | none => [] := by
  cases a with
  | planAppend o d p => rw [applyAction_planAppend]; rfl
  | _ => rfl

theorem aclosed_applyAction (env : Env) (sid : Nat) (a : Action) (s : St) : AClosed (applyAction env sid a s).2 := by
  rw [applyAction_log]
  split
  · exact aclosed_noAct (forall_mem_logEv rfl)
  · exact aclosed_nil

/-- one performed action with its `act` event: followed by exactly its record -/
theorem logged_action (env : Env) (key : Key) (hi : key.inst = env.inst) (a : Action) (s : St) :
    Logged env s (.act key a :: (applyAction env key.sid a s).2) (applyAction env key.sid a s).1 := by
  refine ⟨(framed_applyAction env _ a s).logger, fun hl hs => ?_⟩
  rw [applyAction_log]
  unfold AClosed
  rw [List.foldl_cons]
  show List.foldl aStep (match actRecord key.sid a with | some r => (some (key.inst, r), true) | none => (none, true)) _ = _
  cases actRecord key.sid a with
  | none => rfl
  | some r =>
    show List.foldl aStep (some (key.inst, r), true) (logEv env s.core r) = _
    rw [logEv_on env _ r hl hs, hi]
    simp only [List.foldl_cons, List.foldl_nil, aStep, beq_self_eq_true, Bool.and_self]

theorem lclosed_deliver (env : Env) (m : Method) (sid : Nat) (cur pend : Tr) : LClosed env (deliver env m sid cur pend) :=
  sat_deliver (lclosed_sees env).toComposes
    (fun _ => ⟨rfl, fun _ _ => by
      split
      · exact aclosed_noAct (forall_mem_logEv rfl)
      · exact aclosed_nil⟩)
    (fun _ _ => ⟨rfl, fun _ _ => rfl⟩)
    (fun _ _ a s _ _ => logged_action env ⟨env.inst, env.op, _, m, sid, _⟩ rfl a s)

section blocks
variable (env : Env)

theorem lclosed_processRequest : LClosed env (processRequest env) :=
  sees_processRequest (lclosed_sees env) logger_ignored (fun _ _ _ _ _ => lclosed_deliver env _ _ _ _) fun _ _ _ _ => lclosed_deliver env _ _ _ _

theorem lclosed_initialEnter : LClosed env (initialEnter env) :=
  sees_initialEnter (lclosed_sees env) logger_ignored (fun _ _ _ _ _ => lclosed_deliver env _ _ _ _) fun _ _ _ _ => lclosed_deliver env _ _ _ _

theorem lclosed_replayTransition (d : Nat) : LClosed env (replayTransition env d) :=
  sees_replayTransition (lclosed_sees env) logger_ignored.life logger_ignored.hist (fun _ _ _ => lclosed_deliver env _ _ _ _) d

theorem lclosed_replayEnter (d : Nat) : LClosed env (replayEnter env d) :=
  sees_replayEnter (lclosed_sees env) logger_ignored.life logger_ignored.hist (fun _ _ _ => lclosed_deliver env _ _ _ _) d

theorem lclosed_query : LClosed env (query env) := sat_query (lclosed_sees env).toComposes fun _ => lclosed_deliver env _ _ _ _

theorem lclosed_extChange (d : Nat) (q : Option Nat) : LClosed env (extChange env d q) := fun _ =>
  ⟨rfl, fun _ _ => aclosed_noAct (forall_mem_logEv rfl)⟩

theorem lclosed_extStatus (id : Nat) (ok : Bool) : LClosed env (extStatus env id ok) := fun _ =>
  ⟨by simp only [extStatus]; cases ok <;> rfl, fun _ _ => aclosed_noAct (forall_mem_logEv rfl)⟩

/-! the plan step, the exits and `load` also clear plan data: the logger flag is not among it -/

theorem planDataClear_logger (c : Core) : (planDataClear c).logger = c.logger := rfl

theorem lclosed_silent {m : Core → Core} (hm : ∀ c, (m c).logger = c.logger) : LClosed env (modifyCore m) :=
  sees_modifyCore (lclosed_sees env) fun s => hm s.core

theorem lclosed_finalExit : LClosed env (finalExit env) :=
  sees_finalExit (lclosed_sees env) logger_ignored.life (lclosed_silent env fun _ => by split <;> rfl) (lclosed_silent env fun _ => rfl)
    (lclosed_silent env (wipe_logger _)) fun _ _ _ => lclosed_deliver env _ _ _ _

theorem lclosed_load (buf : List Nat) : LClosed env (load env buf) :=
  sees_load (lclosed_sees env) logger_ignored.life (fun _ => lclosed_silent env fun _ => rfl) (lclosed_silent env (wipe_logger _))
    (fun _ _ _ => lclosed_deliver env _ _ _ _) (lclosed_finalExit env) buf

/-- the firing loop performs no action and writes records only -/
theorem lclosed_planStep : LClosed env (planStep env) :=
  sees_planStep (lclosed_sees env) (fun _ _ _ _ _ _ => rfl) (lclosed_deliver env _ _ _ _) (lclosed_deliver env _ _ _ _)
    (sees_fireStep (lclosed_sees env) (fun _ _ _ _ => rfl) fun hp hl =>
      ⟨hp, fun _ _ => aclosed_noAct fun x hx => by obtain ⟨o, d, rfl⟩ := hl x hx; rfl⟩)

theorem lclosed_cycle (pre mid post : Method) : LClosed env (cycle env pre mid post) :=
  sat_cycle (lclosed_sees env).toComposes (fun _ => (lclosed_sees env).silent rfl)
    (fun _ => sees_phase (lclosed_sees env) (fun _ _ _ => rfl) fun _ => lclosed_deliver env _ _ _ _) (lclosed_planStep env) (lclosed_processRequest env) pre mid post

end blocks

end FFSM2
