import FFSM2.BitArray
import FFSM2.Lemmas.ListAux
/-! Helper lemmas for the bit array (C20): what each operation does to `bit units j`, and that it keeps `Inv`. -/
namespace FFSM2
namespace BitArray

/-- abstraction: is bit `j` set in the storage -/
def bit (units : List Nat) (j : Nat) : Bool := (units.getD (j / 8) 0).testBit (j % 8)

/-- representation invariant of `BitArrayT<cap>` -/
structure Inv (cap : Nat) (units : List Nat) : Prop where
  length : units.length = unitCount cap
  bytes  : ∀ b ∈ units, b < 256
  pad    : ∀ j, cap ≤ j → bit units j = false

theorem unitCount_ge (cap : Nat) : cap ≤ 8 * unitCount cap := by
  simp only [unitCount, Gen.unitCount, Gen.contain]; omega

theorem unitCount_lt (cap : Nat) : 8 * unitCount cap < cap + 8 := by
  simp only [unitCount, Gen.unitCount, Gen.contain]; omega

/-- every unit index computed by get/set/clear is inside the storage -/
theorem unit_index_lt {cap i : Nat} (hi : i < cap) : i / 8 < unitCount cap :=
  Nat.div_lt_of_lt_mul (Nat.lt_of_lt_of_le hi (unitCount_ge cap))

theorem idx_eq_iff (i j : Nat) : (j / 8 = i / 8 ∧ j % 8 = i % 8) ↔ j = i :=
  ⟨fun ⟨h1, h2⟩ => by rw [← Nat.div_add_mod j 8, h1, h2, Nat.div_add_mod], fun h => h ▸ ⟨rfl, rfl⟩⟩

theorem mask_eq (i : Nat) : mask i = 2 ^ (i % 8) := by
  unfold mask
  rw [Nat.one_shiftLeft]
  exact Nat.mod_eq_of_lt (Nat.pow_lt_pow_right (by decide) (Nat.mod_lt i (by decide)) : 2 ^ (i % 8) < 2 ^ 8)

theorem and_two_pow_ne_zero (b k : Nat) : ((b &&& 2 ^ k) != 0) = b.testBit k := by
  have h : b &&& 2 ^ k = if b.testBit k then 2 ^ k else 0 := by
    apply Nat.eq_of_testBit_eq
    intro i
    rw [Nat.testBit_and, Nat.testBit_two_pow]
    by_cases hk : k = i
    · subst hk; cases hb : b.testBit k <;> simp
    · cases hb : b.testBit k <;> simp [hk]
  rw [h]
  cases hb : b.testBit k
  · simp
  · have : 0 < 2 ^ k := Nat.two_pow_pos k
    simp

theorem get_eq_bit (units : List Nat) (j : Nat) : get units j = bit units j := by
  unfold get bit; rw [mask_eq, and_two_pow_ne_zero]

theorem testBit_255_sub (k i : Nat) (hk : k < 8) :
    (255 - 2 ^ k).testBit i = (decide (i < 8) && !decide (k = i)) := by
  have hlt : 2 ^ k < 2 ^ 8 := Nat.pow_lt_pow_right (by decide) hk
  have : 255 - 2 ^ k = 2 ^ 8 - (2 ^ k + 1) := (Nat.add_sub_add_right 255 1 (2 ^ k)).symm
  rw [this, Nat.testBit_two_pow_sub_succ hlt, Nat.testBit_two_pow]

theorem testBit_255 (t : Nat) : (255 : Nat).testBit t = decide (t < 8) := by
  have : (255 : Nat) = 2 ^ 8 - 1 := by decide
  rw [this, Nat.testBit_two_pow_sub_one]

/-- a bit after a store into unit `k` -/
theorem bit_store (units : List Nat) (k x j : Nat) :
    bit (units.set k x) j = if k = j / 8 ∧ k < units.length then x.testBit (j % 8) else bit units j := by
  unfold bit; rw [getD_set]; split <;> rfl

/-- a bit after every unit was overwritten with `c` -/
theorem bit_fill (units : List Nat) (c j : Nat) :
    bit (units.map (fun _ => c)) j = (decide (j / 8 < units.length) && c.testBit (j % 8)) := by
  unfold bit; rw [getD_map_const]; split <;> simp [*]

theorem decide_idx_eq (i j : Nat) : decide (j = i) = (decide (j / 8 = i / 8) && decide (j % 8 = i % 8)) := by
  rw [← Bool.decide_and]; exact decide_eq_decide.mpr (idx_eq_iff i j).symm

theorem bit_set {units : List Nat} {i : Nat} (hi : i / 8 < units.length) (j : Nat) :
    bit (set units i) j = (decide (j = i) || bit units j) := by
  unfold set
  rw [bit_store, mask_eq, decide_idx_eq]
  by_cases h1 : i / 8 = j / 8
  · rw [if_pos ⟨h1, hi⟩, Nat.testBit_or, Nat.testBit_two_pow]
    simp [bit, h1, eq_comm, Bool.or_comm]
  · rw [if_neg (fun h => h1 h.1)]
    simp [Ne.symm h1]

theorem bit_clear {units : List Nat} {i : Nat} (hi : i / 8 < units.length)
    (j : Nat) :
    bit (clear units i) j = (!decide (j = i) && bit units j) := by
  unfold clear
  rw [bit_store, mask_eq, decide_idx_eq]
  by_cases h1 : i / 8 = j / 8
  · rw [if_pos ⟨h1, hi⟩, Nat.testBit_and, testBit_255_sub _ _ (Nat.mod_lt _ (by decide))]
    simp [bit, h1, eq_comm, Bool.and_comm, Nat.mod_lt j (by decide : 0 < 8)]
  · rw [if_neg (fun h => h1 h.1)]
    simp [Ne.symm h1]

theorem getD_lt {units : List Nat} (hb : ∀ b ∈ units, b < 256) (k : Nat) : units.getD k 0 < 256 := by
  rw [List.getD_eq_getElem?_getD]
  cases h : units[k]? with
  | none => simp
  | some v => simp; exact hb v (List.mem_of_getElem? h)

theorem bit_init (cap j : Nat) : bit (init cap) j = false := by
  unfold bit init; rw [getD_replicate]; exact Nat.zero_testBit _

theorem inv_init (cap : Nat) : Inv cap (init cap) where
  length := List.length_replicate
  bytes := by intro b hb; rw [List.eq_of_mem_replicate hb]; decide
  pad := fun j _ => bit_init cap j

theorem inv_set {cap : Nat} {units : List Nat} (h : Inv cap units) {i : Nat} (hi : i < cap) :
    Inv cap (set units i) where
  length := List.length_set.trans h.length
  bytes := by
    refine forall_mem_set h.bytes (Nat.or_lt_two_pow (n := 8) (getD_lt h.bytes _) ?_)
    rw [mask_eq]; exact Nat.pow_lt_pow_right (by decide) (Nat.mod_lt _ (by decide))
  pad := by
    intro j hj
    rw [bit_set (h.length ▸ unit_index_lt hi), h.pad j hj, decide_eq_false (by omega : ¬ j = i)]; rfl

theorem inv_clear {cap : Nat} {units : List Nat} (h : Inv cap units) {i : Nat} (hi : i < cap) :
    Inv cap (clear units i) where
  length := List.length_set.trans h.length
  bytes := forall_mem_set h.bytes (Nat.lt_of_le_of_lt Nat.and_le_left (getD_lt h.bytes _))
  pad := by
    intro j hj
    rw [bit_clear (h.length ▸ unit_index_lt hi), h.pad j hj, Bool.and_false]

/-- the last unit holds the `cap % 8` in-range bits when `cap` is no multiple of 8 -/
theorem bit_setAll {cap : Nat} {units : List Nat} (hl : units.length = unitCount cap) (j : Nat) :
    bit (setAll cap units) j = decide (j < cap) := by
  have hj8 : j % 8 < 8 := Nat.mod_lt _ (by decide)
  have hge := unitCount_ge cap
  have hlt := unitCount_lt cap
  unfold setAll
  split
  · rename_i hm
    have hn : unitCount cap = cap / 8 + 1 := by omega
    rw [bit_store, bit_fill, List.length_map, hl, lowMask_eq (Nat.le_of_lt (Nat.mod_lt cap (by decide))),
      Nat.testBit_two_pow_sub_one, testBit_255, decide_eq_true hj8, Bool.and_true, hn]
    clear hge hlt hn
    split
    · exact decide_eq_decide.mpr (by omega)
    · exact decide_eq_decide.mpr (by omega)
  · have hn : cap = unitCount cap * 8 := by omega
    rw [bit_fill, hl, testBit_255, decide_eq_true hj8, Bool.and_true]
    exact decide_eq_decide.mpr (by rw [Nat.div_lt_iff_lt_mul (by decide), ← hn])

theorem inv_setAll {cap : Nat} {units : List Nat} (h : Inv cap units) : Inv cap (setAll cap units) where
  length := by
    unfold setAll; split
    · rw [List.length_set, List.length_map]; exact h.length
    · rw [List.length_map]; exact h.length
  bytes := by
    unfold setAll
    have hall : ∀ b ∈ units.map (fun _ => 255), b < 256 := by
      intro b hb; obtain ⟨_, _, rfl⟩ := List.mem_map.mp hb; decide
    split
    · exact forall_mem_set hall (Nat.mod_lt _ (by decide))
    · exact hall
  pad := by
    intro j hj
    rw [bit_setAll h.length, decide_eq_false (by omega)]

theorem bit_clearAll (units : List Nat) (j : Nat) : bit (clearAll units) j = false := by
  unfold clearAll; rw [bit_fill, Nat.zero_testBit, Bool.and_false]

theorem inv_clearAll {cap : Nat} {units : List Nat} (h : Inv cap units) : Inv cap (clearAll units) where
  length := by rw [clearAll, List.length_map]; exact h.length
  bytes := by intro b hb; obtain ⟨_, _, rfl⟩ := List.mem_map.mp hb; decide
  pad := fun j _ => bit_clearAll units j

theorem getD_zipWith_and (a b : List Nat) (k : Nat) :
    (List.zipWith (· &&& ·) a b).getD k 0 = a.getD k 0 &&& b.getD k 0 := by
  simp only [List.getD_eq_getElem?_getD, List.getElem?_zipWith]
  cases ha : a[k]? <;> cases hb : b[k]? <;> simp

theorem bit_andAssign (a b : List Nat) (j : Nat) :
    bit (andAssign a b) j = (bit a j && bit b j) := by
  unfold bit andAssign
  rw [getD_zipWith_and, Nat.testBit_and]

theorem inv_andAssign {cap : Nat} {a b : List Nat} (ha : Inv cap a) (hb : Inv cap b) :
    Inv cap (andAssign a b) where
  length := by unfold andAssign; rw [List.length_zipWith, ha.length, hb.length]; simp
  bytes := by
    intro x hx
    unfold andAssign at hx
    obtain ⟨i, hi, rfl⟩ := List.getElem_of_mem hx
    rw [List.getElem_zipWith]
    have hi' : i < a.length := by rw [List.length_zipWith] at hi; omega
    exact Nat.lt_of_le_of_lt Nat.and_le_left (ha.bytes _ (List.getElem_mem hi'))
  pad := by intro j hj; rw [bit_andAssign, ha.pad j hj]; simp

/-- bit `t` of unit `k` is bit `8 * k + t` of the array -/
theorem bit_mul_add (units : List Nat) (k : Nat) {t : Nat} (ht : t < 8) :
    bit units (8 * k + t) = (units.getD k 0).testBit t := by
  unfold bit
  rw [Nat.mul_add_div (by decide), Nat.div_eq_of_lt ht, Nat.add_zero, Nat.mul_add_mod, Nat.mod_eq_of_lt ht]

/-- `empty()` is exactly "no in-range bit set" — this is where the padding invariant matters -/
theorem empty_iff {cap : Nat} {units : List Nat} (h : Inv cap units) :
    empty units = true ↔ ∀ j, j < cap → bit units j = false := by
  unfold empty
  rw [List.all_eq_true]
  constructor
  · intro hall j _
    unfold bit
    rw [List.getD_eq_getElem?_getD]
    cases hk : units[j / 8]? with
    | none => exact Nat.zero_testBit _
    | some v => rw [Option.getD_some, eq_of_beq (hall v (List.mem_of_getElem? hk))]; exact Nat.zero_testBit _
  · intro hbits b hb
    obtain ⟨k, hk, rfl⟩ := List.getElem_of_mem hb
    rw [beq_iff_eq]
    apply Nat.eq_of_testBit_eq
    intro t
    rw [Nat.zero_testBit]
    by_cases ht : t < 8
    · rw [List.getElem_eq_getD 0, ← bit_mul_add units k ht]
      by_cases hc : 8 * k + t < cap
      · exact hbits _ hc
      · exact h.pad _ (Nat.le_of_not_lt hc)
    · exact Nat.testBit_lt_two_pow (Nat.lt_of_lt_of_le (h.bytes _ (List.getElem_mem hk))
        (Nat.pow_le_pow_right (by decide) (Nat.le_of_not_lt ht) : 2 ^ 8 ≤ 2 ^ t))

end BitArray
end FFSM2
