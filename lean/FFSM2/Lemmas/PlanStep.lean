import FFSM2.Lemmas.PlanTrace
import FFSM2.Props.C09
/-! What the plan step does to the plan, without any range hypothesis, and the shape of the plan over one whole
    `update()` / `react()`: edits by user code, then the plan step (which only removes the tasks it fires, or
    clears the plan), then edits by user code again. -/
namespace FFSM2
open Step

/-- **the plan step only removes**: afterwards the plan is untouched, or empty (an outcome callback was
    delivered), or exactly what `keptOf` leaves of it for the active state and its success bit -/
theorem planStep_plan (env : Env) (s : St) :
    (planStep env s).1.core.plan = s.core.plan ∨ (planStep env s).1.core.plan = [] ∨
    (planStep env s).1.core.plan = keptOf s.core.plan s.core.active (getBit s.core.succ s.core.active) := by
  rw [planStep_eq, seq_modifyCore]
  dsimp only
  cases cycleStatus s != .none && s.core.planExists
  · exact .inl rfl
  cases cycleStatus s == .failure
  · cases !s.core.plan.isEmpty
    · exact .inr (.inl (planOutcome_spec env _ _ (.inr rfl) s).2)
    · exact .inr (.inr (firePlan_ghost env s.core.plan s []).1)
  · exact .inr (.inl (planOutcome_spec env _ _ (.inl rfl) s).2)

theorem planTrace_phases (env : Env) (pre mid post : Method) : PlanTrace env.cfg.cap (cyclePhases env pre mid post) :=
  sat_cyclePhases (planTrace_sees _).toComposes (fun _ => rfl) (planTrace_phase env _ _) (planTrace_phase env _ _) (planTrace_phase env _ _)

/-- **the plan over one `update()` / `react()`**: the call's events split into three runs — before, during and
    after the plan step.  The plan going into the plan step is the plan before the call with user code's edits
    of the first run applied; the plan step leaves it alone, empties it, or removes exactly the tasks `keptOf`
    does not keep *for the state that was active when the call began*; after it only user code's edits of the
    last run apply. -/
theorem cycle_plan (env : Env) (pre mid post : Method) (s : St) :
    ∃ (es1 es2 es3 : List Ev) (q : List Task),
      (cycle env pre mid post s).2 = es1 ++ es2 ++ es3 ∧
      (q = editsPlan env.cfg.cap es1 s.core.plan ∨ q = [] ∨
        ∃ b, q = keptOf (editsPlan env.cfg.cap es1 s.core.plan) s.core.active b) ∧
      (cycle env pre mid post s).1.core.plan = editsPlan env.cfg.cap es3 q := by
  rw [cycle_eq_phases]
  simp only [Step.seq] -- matching the witnesses below against the folded `⋙` is slow
  let r1 := cyclePhases env pre mid post s
  let r2 := (if env.cfg.plans then planStep env else skip) r1.1
  let r3 := processRequest env r2.1
  refine ⟨r1.2, r2.2, r3.2, r2.1.core.plan, rfl, ?_, planTrace_processRequest env r2.1⟩
  have h1 : r1.1.core.plan = editsPlan env.cfg.cap r1.2 s.core.plan := planTrace_phases env pre mid post s
  have ha : r1.1.core.active = s.core.active := (stable_phases env pre mid post s).1
  by_cases hp : env.cfg.plans = true
  · have e : r2 = planStep env r1.1 := by simp only [r2, hp, if_true]
    rw [e]
    rcases planStep_plan env r1.1 with h | h | h
    · exact Or.inl (h.trans h1)
    · exact Or.inr (Or.inl h)
    · exact Or.inr (Or.inr ⟨_, by rw [h, h1, ha]⟩)
  · have e : r2 = skip r1.1 := by simp only [r2, hp, if_false, Bool.false_eq_true]
    rw [e]
    exact Or.inl h1

end FFSM2
