import FFSM2.Lemmas.Made
/-! The trace of one delivery, said once: an optional method record, then for each layer of `deep`, in that order, the
    layer's `cb` event followed by what the callback does through its control — `act` events under the layer's key and
    non-method log records.  What the trace frameworks need of `deliver` are projections of this. -/
namespace FFSM2
open Step Ancestors

/-- what user code emits through the control of the delivery `key` -/
inductive FromActions (env : Env) (key : Key) : Ev → Prop
  | act (a : Action) : FromActions env key (.act key a)
  | log (r : LogRec) : r.isMethod = false → FromActions env key (.log env.inst r)

theorem runActions_events (env : Env) (fl : Flavour) (sid : Nat) (key : Key) :
    ∀ (as : List Action) (s : St), ∀ e ∈ (runActions env fl sid key as s).2, FromActions env key e
  | [], _ => by intro e he; cases he
  | a :: as, s => by
    intro e he
    unfold runActions at he
    rcases List.mem_append.mp he with he | he
    · split at he
      · rcases List.mem_append.mp he with he | he
        · rw [List.mem_singleton.mp he]; exact .act a
        · exact (emits_applyAction (A := fun _ _ _ _ => False) sid a _).forall (fun _ _ _ _ _ h => h.elim)
            (fun _ r hr => forall_mem_logEv (.log r hr)) e he
      · cases he
    · exact runActions_events env fl sid key as _ e he

/-- the traces of the layers `ls` of a delivery of `m` to `sid` -/
inductive LayerTrace (env : Env) (m : Method) (sid : Nat) (cur pend : Tr) : List Layer → List Ev → Prop
  | nil : LayerTrace env m sid cur pend [] []
  | cons (layer : Layer) (occ : Nat) (c : Core) {tail rest : List Ev} {ls : List Layer} :
      (∀ e ∈ tail, FromActions env ⟨env.inst, env.op, occ, m, sid, layer⟩ e) → LayerTrace env m sid cur pend ls rest →
      LayerTrace env m sid cur pend (layer :: ls)
        (.cb ⟨env.inst, env.op, occ, m, sid, layer⟩ (observable env.cfg sid m layer) (observe env m.flavour sid cur pend c) :: tail ++ rest)

theorem layerTrace_seqList (env : Env) (m : Method) (sid : Nat) (cur pend : Tr) : ∀ (ls : List Layer) (s : St),
    LayerTrace env m sid cur pend ls (seqList (ls.map (deliverLayer env m sid cur pend)) s).2
  | [], _ => .nil
  | l :: ls, s => by
    simp only [List.map_cons, seqList, Step.seq]
    rw [deliverLayer_eq]
    unfold layerBody
    simp only [Step.seq, emit, List.cons_append]
    refine .cons l _ _ ?_ (layerTrace_seqList env m sid cur pend ls _)
    split
    · exact runActions_events env _ _ _ _ _
    · intro e he; cases he

theorem deliver_trace (env : Env) (m : Method) (sid : Nat) (cur pend : Tr) (s : St) :
    ∃ rest, (deliver env m sid cur pend s).2 = (if recorded env.cfg sid m then logEv env s.core (.method sid m) else []) ++ rest ∧
      LayerTrace env m sid cur pend (deep (env.cfg.injections sid) m) rest :=
  ⟨_, rfl, layerTrace_seqList env m sid cur pend _ _⟩

/-- a property of single events: enough to have it of the delivery events and of what the callbacks emit -/
theorem LayerTrace.forall {env : Env} {m : Method} {sid : Nat} {cur pend : Tr} {P : Ev → Prop}
    (hcb : ∀ layer occ c, P (.cb ⟨env.inst, env.op, occ, m, sid, layer⟩ (observable env.cfg sid m layer) (observe env m.flavour sid cur pend c)))
    (hact : ∀ layer occ e, FromActions env ⟨env.inst, env.op, occ, m, sid, layer⟩ e → P e) {ls : List Layer} {es : List Ev}
    (h : LayerTrace env m sid cur pend ls es) : ∀ e ∈ es, P e := by
  induction h with
  | nil => intro e he; cases he
  | cons layer occ c ht _ ih =>
    intro e he
    rcases List.mem_cons.mp he with rfl | he
    · exact hcb _ _ _
    · rcases List.mem_append.mp he with he | he
      · exact hact _ _ e (ht e he)
      · exact ih e he

/-- the same for the whole delivery, its method record included -/
theorem deliver_forall {env : Env} {m : Method} {sid : Nat} {cur pend : Tr} {P : Ev → Prop}
    (hrec : P (.log env.inst (.method sid m)))
    (hcb : ∀ layer occ c, P (.cb ⟨env.inst, env.op, occ, m, sid, layer⟩ (observable env.cfg sid m layer) (observe env m.flavour sid cur pend c)))
    (hact : ∀ layer occ e, FromActions env ⟨env.inst, env.op, occ, m, sid, layer⟩ e → P e) (s : St) :
    ∀ e ∈ (deliver env m sid cur pend s).2, P e := by
  intro e he
  obtain ⟨rest, h, ht⟩ := deliver_trace env m sid cur pend s
  rw [h] at he
  rcases List.mem_append.mp he with he | he
  · split at he
    · exact eq_of_mem_logEv he ▸ hrec
    · cases he
  · exact ht.forall hcb hact e he

theorem filterMap_ite_const {α β : Type} (p : α → Bool) (b : β) (l : List α) :
    l.filterMap (fun x => if p x then some b else none) = (l.filter p).map (fun _ => b) := by
  induction l with
  | nil => rfl
  | cons x xs ih => by_cases h : p x = true <;> simp [h, ih]

/-- a signature of traces that reads delivery events only: of a delivery it keeps what it keeps of the layers -/
theorem deliver_filterMap {β : Type} {φ : Ev → Option β} (hact : ∀ k a, φ (.act k a) = none) (hlog : ∀ i r, φ (.log i r) = none)
    {env : Env} {m : Method} {sid : Nat} {cur pend : Tr} {ψ : Layer → Option β}
    (hcb : ∀ layer occ c, φ (.cb ⟨env.inst, env.op, occ, m, sid, layer⟩ (observable env.cfg sid m layer)
      (observe env m.flavour sid cur pend c)) = ψ layer) (s : St) :
    (deliver env m sid cur pend s).2.filterMap φ = (deep (env.cfg.injections sid) m).filterMap ψ := by
  have hfa : ∀ {key : Key} {es : List Ev}, (∀ e ∈ es, FromActions env key e) → es.filterMap φ = [] := by
    intro key es h
    refine List.filterMap_eq_nil_iff.mpr fun e he => ?_
    cases h e he with
    | act a => exact hact _ _
    | log r _ => exact hlog _ _
  have hlayers : ∀ {ls : List Layer} {es : List Ev}, LayerTrace env m sid cur pend ls es → es.filterMap φ = ls.filterMap ψ := by
    intro ls es ht
    induction ht with
    | nil => rfl
    | @cons layer occ c tail rest ls htail _ ih =>
      rw [List.filterMap_append, ih, List.filterMap_cons, List.filterMap_cons, hcb, hfa htail]
      cases ψ layer <;> rfl
  obtain ⟨rest, h, ht⟩ := deliver_trace env m sid cur pend s
  have hrec : (if recorded env.cfg sid m then logEv env s.core (.method sid m) else []).filterMap φ = [] := by
    refine List.filterMap_eq_nil_iff.mpr fun e he => ?_
    split at he
    · exact eq_of_mem_logEv he ▸ hlog _ _
    · cases he
  rw [h, List.filterMap_append, hrec, hlayers ht, List.nil_append]

theorem silent_deliver {p : Ev → Bool} (hp : MethodPred p) (env : Env) (m : Method) (hm : Excl p m) (sid : Nat) (cur pend : Tr) :
    Silent p (deliver env m sid cur pend) :=
  fun s => filter_eq_nil_of_false (deliver_forall (P := fun e => p e = false) (hp.not_cb rfl)
    (fun _ _ _ => hm _ _ _ rfl) (fun _ _ _ h => hp.not_cb (by cases h <;> rfl)) s)

/-! ### `Silent p`: the deliveries admitted are those of the methods `p` excludes -/

variable {env : Env}

abbrev Quiet (p : Ev → Bool) : Method → Nat → Tr → Tr → Prop := fun m _ _ _ => Excl p m

theorem Made.silent {p : Ev → Bool} (hp : MethodPred p) {es : List Ev} (h : Made env (Quiet p) es) : es.filter p = [] := by
  induction h with
  | nil => rfl
  | append _ _ iha ihb => rw [List.filter_append, iha, ihb]; rfl
  | deliver m sid cur pend s hm => exact silent_deliver hp env m hm sid cur pend s
  | log c r _ => exact filter_logEv hp env c r

theorem Emits.silent {p : Ev → Bool} (hp : MethodPred p) {f : Step} (h : Emits env (Quiet p) f) : Silent p f := fun s => (h s).silent hp

theorem silent_applyAction {p : Ev → Bool} (hp : MethodPred p) (env : Env) (sid : Nat) (a : Action) :
    Silent p (applyAction env sid a) := (emits_applyAction (A := Quiet p) sid a).silent hp

theorem ExclCore.guards {p : Ev → Bool} (hx : ExclCore p) (c q : Tr) : Guards (Quiet p) c q := by
  intro m _ hm
  cases m <;> first | exact hx.exitGuard | exact hx.entryGuard | cases hm

theorem ExclCore.life {p : Ev → Bool} (hx : ExclCore p) (c : Tr) : Life (Quiet p) c := by
  intro m _ hm
  cases m <;> first | exact hx.enter | exact hx.exit | exact hx.reenter | cases hm

theorem lifeFree_of_guard {m : Method} (h : m.isGuard = true) : m.isLife = false := by
  cases m <;> first | rfl | cases h

/-- **guard evaluation is pure** w.r.t. the lifecycle -/
theorem noLife_guardRound (env : Env) (cur pend : Tr) : NoLife (guardRound env cur pend) :=
  Emits.silent methodPred_isLife (emits_guardRound fun _ _ hm => life_excludes (lifeFree_of_guard hm))

theorem noLife_entryGuardRound (env : Env) (cur pend : Tr) : NoLife (entryGuardRound env cur pend) :=
  Emits.silent methodPred_isLife (emits_entryGuardRound fun _ _ hm => life_excludes (lifeFree_of_guard hm))

end FFSM2
