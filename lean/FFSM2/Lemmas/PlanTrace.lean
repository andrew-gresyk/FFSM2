import FFSM2.Lemmas.Steps
/-! The plan is what user code made it.  `PlanTrace cap f`: after the step, the plan is the plan before with the
    plan edits user code performed during the step (`act` events: append / clear / remove) applied in order —
    nothing else in the step touches it.  Every building block except the plan step and the final exit has this
    property; those two only ever *remove* tasks (`Props/PlanHistory.lean`, C08 / C10 at run level). -/
namespace FFSM2
open Step Ancestors

/-- effect of one event on the plan: only the plan edits user code performs have one -/
def editPlan (cap : Nat) (p : List Task) : Ev → List Task
  | .act _ (.planAppend o d pl) => if p.length < cap then p ++ [⟨o, d, pl⟩] else p
  | .act _ .planClear => []
  | .act _ (.planRemove m) => removeMasked p m
  | _ => p

def editsPlan (cap : Nat) (es : List Ev) (p : List Task) : List Task := es.foldl (editPlan cap) p

def Ev.isPlanEdit : Ev → Bool
  | .act _ (.planAppend ..) => true
  | .act _ .planClear => true
  | .act _ (.planRemove _) => true
  | _ => false

@[simp] theorem editsPlan_nil (cap : Nat) (p : List Task) : editsPlan cap [] p = p := rfl

theorem editsPlan_append (cap : Nat) (a b : List Ev) (p : List Task) :
    editsPlan cap (a ++ b) p = editsPlan cap b (editsPlan cap a p) := by
  simp [editsPlan, List.foldl_append]

theorem editPlan_noEdit (cap : Nat) (p : List Task) {e : Ev} (h : e.isPlanEdit = false) : editPlan cap p e = p := by
  cases e with
  | act k a => cases a <;> first | rfl | (simp [Ev.isPlanEdit] at h)
  | _ => rfl

theorem editsPlan_noEdit (cap : Nat) (es : List Ev) (p : List Task) (h : ∀ e ∈ es, e.isPlanEdit = false) : editsPlan cap es p = p :=
  foldl_fixed fun e he => editPlan_noEdit cap p (h e he)

/-- `Sat` of "the plan after is the plan before with the trace's edits applied", spelt out because users rewrite with it -/
def PlanTrace (cap : Nat) (f : Step) : Prop := ∀ s, (f s).1.core.plan = editsPlan cap (f s).2 s.core.plan

variable {cap : Nat}

theorem planTrace_sees (cap : Nat) : Sees (fun s => s.core.plan) fun s es s' => s'.core.plan = editsPlan cap es s.core.plan where
  nil _ := rfl
  app {_ _ _ a b} h1 h2 := h2.trans ((congrArg (editsPlan cap b) h1).trans (editsPlan_append cap a b _).symm)
  silent h := h

theorem plan_ignored : IgnoresFlow fun s => s.core.plan := fun _ _ _ _ _ _ _ _ _ _ => rfl

theorem PlanTrace.seq {f g : Step} (hf : PlanTrace cap f) (hg : PlanTrace cap g) : PlanTrace cap (f ⋙ g) :=
  Sat.seq (planTrace_sees cap).toComposes hf hg
theorem planTrace_skip : PlanTrace cap skip := sat_skip (planTrace_sees cap).toComposes
theorem planTrace_modifyCore {m : Core → Core} (h : ∀ c, (m c).plan = c.plan) : PlanTrace cap (modifyCore m) := fun s => h s.core

/-- `editPlan` is what an action does to the plan, and the records it writes edit nothing -/
theorem applyAction_plan (env : Env) (sid : Nat) (key : Key) (a : Action) (s : St) :
    (applyAction env sid a s).1.core.plan = editPlan env.cfg.cap s.core.plan (.act key a) ∧
    ∀ e ∈ (applyAction env sid a s).2, e.isPlanEdit = false := by
  cases a with
  | planAppend o d p => rw [applyAction_planAppend]; exact ⟨rfl, fun _ h => nomatch h⟩
  | planClear => exact ⟨rfl, fun _ h => nomatch h⟩
  | planRemove m => exact ⟨rfl, fun _ h => nomatch h⟩
  | _ => exact ⟨rfl, forall_mem_logEv rfl⟩

theorem planTrace_deliver (env : Env) (m : Method) (sid : Nat) (cur pend : Tr) :
    PlanTrace env.cfg.cap (deliver env m sid cur pend) :=
  sat_deliver (planTrace_sees _).toComposes
    (fun _ => by
      split
      · exact (editsPlan_noEdit _ _ _ (forall_mem_logEv rfl)).symm
      · rfl)
    (fun _ _ => rfl)
    (fun l occ a s _ _ =>
      have h := applyAction_plan env sid ⟨env.inst, env.op, occ, m, sid, l⟩ a s
      h.1.trans (editsPlan_noEdit _ _ _ h.2).symm)

section blocks
variable (env : Env)

theorem planTrace_processRequest : PlanTrace env.cfg.cap (processRequest env) :=
  sees_processRequest (planTrace_sees _) plan_ignored (fun _ _ _ _ _ => planTrace_deliver env _ _ _ _) fun _ _ _ _ => planTrace_deliver env _ _ _ _

theorem planTrace_initialEnter : PlanTrace env.cfg.cap (initialEnter env) :=
  -- no expected type: matching `PlanTrace _ (initialEnter env)` against `Sat ?J (initialEnter ?env)` unfolds `initialEnter`
  (sees_initialEnter (planTrace_sees _) plan_ignored (fun _ _ _ _ _ => planTrace_deliver env _ _ _ _) fun _ _ _ _ => planTrace_deliver env _ _ _ _ :)

theorem planTrace_replayTransition (d : Nat) : PlanTrace env.cfg.cap (replayTransition env d) :=
  sees_replayTransition (planTrace_sees _) plan_ignored.life plan_ignored.hist (fun _ _ _ => planTrace_deliver env _ _ _ _) d

theorem planTrace_replayEnter (d : Nat) : PlanTrace env.cfg.cap (replayEnter env d) :=
  sees_replayEnter (planTrace_sees _) plan_ignored.life plan_ignored.hist (fun _ _ _ => planTrace_deliver env _ _ _ _) d

theorem planTrace_phase (m : Method) (hf : Bool) : PlanTrace env.cfg.cap (phase env m hf) :=
  sees_phase (planTrace_sees _) (fun _ _ _ => rfl) (fun _ => planTrace_deliver env _ _ _ _) hf

theorem planTrace_query : PlanTrace env.cfg.cap (query env) :=
  sat_query (planTrace_sees _).toComposes fun _ => planTrace_deliver env _ _ _ _

theorem planTrace_extChange (d : Nat) (q : Option Nat) : PlanTrace env.cfg.cap (extChange env d q) := fun _ =>
  (editsPlan_noEdit _ _ _ (forall_mem_logEv rfl)).symm

theorem planTrace_extStatus (id : Nat) (ok : Bool) : PlanTrace env.cfg.cap (extStatus env id ok) := fun s =>
  (show _ = s.core.plan by cases ok <;> rfl).trans (editsPlan_noEdit _ _ _ (forall_mem_logEv rfl)).symm

end blocks

end FFSM2
