import FFSM2.PlanList
import FFSM2.Lemmas.TaskList
import FFSM2.Lemmas.ListAux
/-! Representation invariant of `PlanT` over `TaskListT` + `taskLinks` + `tasksBounds`, and the
    specification of append / remove / clear / iteration under it (C10). -/
namespace FFSM2
namespace PlanList
open TaskList

/-- the doubly linked chain of plan order: `prev` of the first is `pv`, `next` of the last is 255 -/
def LC (links : List Link) : Nat → List Nat → Prop
  | _, [] => True
  | pv, x :: rest => (linkAt links x).prev = pv ∧ (linkAt links x).next = rest.head?.getD 255 ∧ LC links x rest

structure PInv (p : Plan) (vac order : List Nat) : Prop where
  tl : TaskList.Inv p.tasks vac
  linksLen : p.links.length = p.tasks.cap
  nodup : order.Nodup
  occIff : ∀ j, j ∈ order ↔ Occ p.tasks vac j
  cntEq : order.length = p.tasks.count
  firstEq : p.first = order.head?.getD 255
  lastEq : p.last = order.getLast?.getD 255
  lc : LC p.links 255 order
  clean : ∀ j, j < p.tasks.cap → j ∉ order → linkAt p.links j = Link.none

/-- the abstract plan: the tasks in append order -/
def absPlan (p : Plan) (order : List Nat) : List Item := order.map (at' p.tasks.items)

theorem linkAt_set_ne (links : List Link) {k j : Nat} (x : Link) (h : k ≠ j) :
    linkAt (links.set k x) j = linkAt links j :=
  getD_set_ne links x Link.none h

theorem linkAt_set_self (links : List Link) {k : Nat} (x : Link) (h : k < links.length) :
    linkAt (links.set k x) k = x :=
  getD_set_self links x Link.none h

/-- a doubly linked segment with both outer neighbours explicit: `prev` of the first is `pv`, `next` of
    the last is `nx` -/
def Seg (links : List Link) : Nat → Nat → List Nat → Prop
  | _, _, [] => True
  | pv, nx, x :: rest => (linkAt links x).prev = pv ∧ (linkAt links x).next = rest.head?.getD nx ∧ Seg links x nx rest

theorem LC_iff_Seg {links : List Link} : ∀ {l : List Nat} {pv : Nat}, LC links pv l ↔ Seg links pv 255 l
  | [], _ => Iff.rfl
  | _ :: _, _ => and_congr Iff.rfl (and_congr Iff.rfl LC_iff_Seg)

theorem Seg_set {links : List Link} {k : Nat} {v : Link} : ∀ {l : List Nat} {pv nx : Nat}, k ∉ l → Seg links pv nx l →
    Seg (links.set k v) pv nx l
  | [], _, _, _, _ => trivial
  | x :: _, _, _, hk, h => by
    have hx := linkAt_set_ne links v (fun e => hk (e ▸ List.mem_cons_self) : k ≠ x)
    exact ⟨hx ▸ h.1, hx ▸ h.2.1, Seg_set (fun hm => hk (List.mem_cons_of_mem _ hm)) h.2.2⟩

theorem Seg_append {links : List Link} {l1 l2 : List Nat} {nx : Nat} : ∀ {pv : Nat},
    Seg links pv nx (l1 ++ l2) ↔ Seg links pv (l2.head?.getD nx) l1 ∧ Seg links (l1.getLast?.getD pv) nx l2 := by
  induction l1 with
  | nil => exact ⟨fun h => ⟨trivial, h⟩, fun h => h.2⟩
  | cons x l1 ih =>
    intro pv
    simp only [List.cons_append, Seg, ih, head?_getD_append, getLast?_getD_cons, and_assoc]

/-- what a chain says about an element in the middle -/
theorem LC_mid {links : List Link} {pre post : List Nat} {x pv : Nat} (h : LC links pv (pre ++ x :: post)) :
    (linkAt links x).prev = pre.getLast?.getD pv ∧ (linkAt links x).next = post.head?.getD 255 := by
  rw [LC_iff_Seg, Seg_append] at h
  exact ⟨h.2.1, h.2.2.1⟩

/-- redirecting `next` of the last element moves the right end of a segment -/
theorem Seg_setNext {links : List Link} (nx nx' : Nat) {l : List Nat} {pv : Nat}
    (hnd : l.Nodup) (hlt : ∀ z ∈ l, z < links.length) (h : Seg links pv nx l) :
    Seg (links.set (l.getLast?.getD pv) { linkAt links (l.getLast?.getD pv) with next := nx' }) pv nx' l := by
  rcases List.eq_nil_or_concat l with rfl | ⟨init, y, rfl⟩
  · trivial
  · rw [List.concat_eq_append] at hnd hlt h ⊢
    rw [List.getLast?_concat, Option.getD_some]
    have hy := linkAt_set_self links { linkAt links y with next := nx' } (hlt y List.mem_concat_self)
    rw [Seg_append] at h ⊢
    exact ⟨Seg_set (fun hm => (List.nodup_append.mp hnd).2.2 y hm y List.mem_cons_self rfl) h.1,
      by rw [hy]; exact h.2.1, by rw [hy]; rfl, trivial⟩

/-- redirecting `prev` of the first element moves the left end of a segment -/
theorem Seg_setPrev {links : List Link} (pv pv' : Nat) {l : List Nat} {nx : Nat}
    (hnd : l.Nodup) (hlt : ∀ z ∈ l, z < links.length) (h : Seg links pv nx l) :
    Seg (links.set (l.head?.getD nx) { linkAt links (l.head?.getD nx) with prev := pv' }) pv' nx l := by
  cases l with
  | nil => trivial
  | cons x rest =>
    show Seg (links.set x { linkAt links x with prev := pv' }) pv' nx (x :: rest)
    have hx := linkAt_set_self links { linkAt links x with prev := pv' } (hlt x List.mem_cons_self)
    exact ⟨by rw [hx], by rw [hx]; exact h.2.1, Seg_set (List.nodup_cons.mp hnd).1 h.2.2⟩

theorem order_lt_cap {p : Plan} {vac order : List Nat} (h : PInv p vac order) : ∀ j ∈ order, j < p.tasks.cap := by
  intro j hj
  exact Nat.lt_of_lt_of_le ((h.occIff j).mp hj).1 (bound_le_cap _)

theorem order_length_le {p : Plan} {vac order : List Nat} (h : PInv p vac order) : order.length ≤ p.tasks.cap := by
  rw [h.cntEq]; have := h.tl.cnt; have := bound_le_cap p.tasks; omega

/-- a slot index is never INVALID -/
theorem ne_invalid {p : Plan} {vac order : List Nat} (h : PInv p vac order) {j : Nat} (hj : j < p.tasks.cap) : j ≠ 255 :=
  Nat.ne_of_lt (Nat.lt_of_lt_of_le hj h.tl.capLe)

theorem invalid_not_lt {p : Plan} {vac order : List Nat} (h : PInv p vac order) : ¬ 255 < p.tasks.cap :=
  Nat.not_lt.mpr h.tl.capLe

theorem pinv_init (cap : Nat) (h1 : 1 ≤ cap) (h2 : cap ≤ 255) : PInv (init cap) [0] [] where
  tl := inv_init cap h1 h2
  linksLen := List.length_replicate
  nodup := List.nodup_nil
  occIff := fun j => ⟨nofun, fun ho => (occ_clear (TaskList.init cap) j h1 ho).elim⟩
  cntEq := rfl
  firstEq := rfl
  lastEq := rfl
  lc := trivial
  clean := fun j _ _ => getD_replicate cap j Link.none

theorem linkTask_invalid (p : Plan) : linkTask p 255 = (p, false) := rfl

theorem linkTask_first {p : Plan} {i : Nat} (hi : i ≠ 255) (hf : p.first = 255) :
    linkTask p i = ({ p with first := i, last := i }, true) := by
  unfold linkTask; rw [if_pos hi, if_pos hf]

theorem linkTask_link {p : Plan} {i : Nat} (hi : i ≠ 255) (hf : p.first ≠ 255) :
    linkTask p i =
      ({ p with links := (p.links.set p.last { linkAt p.links p.last with next := i }).set i
                  { linkAt (p.links.set p.last { linkAt p.links p.last with next := i }) i with prev := p.last },
                last := i }, true) := by
  unfold linkTask; rw [if_pos hi, if_neg hf]

/-- what both appends do with their task: emplace it, link the slot at the end (`linkTask` rejects INVALID) -/
def appendItem (p : Plan) (t : Item) : Plan × Bool :=
  linkTask { p with tasks := (emplace p.tasks t).1 } (emplace p.tasks t).2

theorem appendItem_full {p : Plan} (t : Item) (hc : ¬ p.tasks.count < p.tasks.cap) : appendItem p t = (p, false) := by
  unfold appendItem; rw [emplace_full _ _ hc]; exact linkTask_invalid p

theorem appendWith_eq (p : Plan) (o d pl : Nat) : appendWith p o d pl = appendItem p ⟨o, d, some pl⟩ := rfl

/-- the capacity test of `PlanT::append` repeats the one inside `emplace` -/
theorem append_eq (p : Plan) (o d : Nat) : append p o d = appendItem p ⟨o, d, none⟩ := by
  unfold append; split
  · rfl
  · next hc => exact (appendItem_full _ hc).symm

/-- linking the clean cell `idx` behind the last element of a non-empty chain -/
theorem LC_snoc {links : List Link} {order : List Nat} {idx last : Nat} (hne : order ≠ []) (hnd : order.Nodup)
    (hni : idx ∉ order) (hlt : ∀ z ∈ order, z < links.length) (hidx : idx < links.length)
    (hnone : linkAt links idx = Link.none) (hl : order.getLast?.getD 255 = last) (h : LC links 255 order) :
    LC ((links.set last { linkAt links last with next := idx }).set idx
          { linkAt (links.set last { linkAt links last with next := idx }) idx with prev := last }) 255 (order ++ [idx]) := by
  subst hl
  rw [LC_iff_Seg] at h ⊢
  have hli : order.getLast?.getD 255 ≠ idx := fun e => hni (e ▸ getLast?_getD_mem hne 255)
  exact Seg_append.mpr ⟨Seg_set hni (Seg_setNext 255 idx hnd hlt h),
    Seg_setPrev _ _ (List.pairwise_singleton _ idx) (List.forall_mem_singleton.mpr (Nat.lt_of_lt_of_eq hidx List.length_set.symm))
      ⟨rfl, by rw [linkAt_set_ne _ _ hli, hnone]; rfl, trivial⟩⟩

/-- **`PlanT::append` / `PayloadPlanT::append`** below capacity (`append_eq`, `appendWith_eq`): the task is emplaced and
    linked at the end, and the abstract plan grows by it; `appendItem_full` is the other half -/
theorem appendItem_spec {p : Plan} {vac order : List Nat} (h : PInv p vac order) (t : Item)
    (hc : p.tasks.count < p.tasks.cap) :
    ∃ q vac', appendItem p t = (q, true) ∧
      PInv q vac' (order ++ [p.tasks.head]) ∧ q.tasks.cap = p.tasks.cap ∧
      absPlan q (order ++ [p.tasks.head]) = absPlan p order ++ [t] := by
  obtain ⟨vac', hinv, hidx, hcnt, hcap, hocc, hat, hkeep⟩ := emplace_spec h.tl hc t
  have hlt := h.tl.head_lt hc
  have hne255 := ne_invalid h hlt
  have hnotin : p.tasks.head ∉ order := fun hm => ((h.occIff _).mp hm).2 (h.tl.head_mem hc)
  have hnone := h.clean _ hlt hnotin
  have hlen : p.links.length = (emplace p.tasks t).1.cap := h.linksLen.trans hcap.symm
  -- the parts of the invariant that do not look at the links
  have hnd : (order ++ [p.tasks.head]).Nodup :=
    (List.perm_append_singleton _ _).nodup_iff.mpr (List.nodup_cons.mpr ⟨hnotin, h.nodup⟩)
  have hoc : ∀ j, j ∈ order ++ [p.tasks.head] ↔ Occ (emplace p.tasks t).1 vac' j := fun j => by
    rw [hocc j, List.mem_append, h.occIff j, List.mem_singleton, or_comm]
  have hcn : (order ++ [p.tasks.head]).length = (emplace p.tasks t).1.count := by
    rw [hcnt, List.length_append, h.cntEq]; rfl
  have habs : (order ++ [p.tasks.head]).map (at' (emplace p.tasks t).1.items) = absPlan p order ++ [t] := by
    rw [List.map_append, List.map_singleton, hat]
    exact congrArg (· ++ [t]) (List.map_congr_left fun j hj => hkeep j ((h.occIff j).mp hj))
  unfold appendItem
  rw [hidx]
  cases order with
  | nil =>
    refine ⟨_, vac', linkTask_first hne255 h.firstEq, ?_, hcap, habs⟩
    exact {
      tl := hinv, linksLen := hlen, nodup := hnd, occIff := hoc, cntEq := hcn, firstEq := rfl, lastEq := rfl
      lc := ⟨congrArg Link.prev hnone, congrArg Link.next hnone, trivial⟩
      clean := fun j hj _ => h.clean j (by rw [← hcap]; exact hj) List.not_mem_nil }
  | cons a r =>
    have hlo := order_lt_cap h
    have hfirst : p.first ≠ 255 := h.firstEq ▸ ne_invalid h (hlo a List.mem_cons_self)
    have hlm : p.last ∈ a :: r := h.lastEq ▸ getLast?_getD_mem (List.cons_ne_nil a r) 255
    refine ⟨_, vac', linkTask_link hne255 hfirst, ?_, hcap, habs⟩
    exact {
      tl := hinv
      linksLen := by
        show ((p.links.set _ _).set _ _).length = _
        rw [List.length_set, List.length_set]; exact hlen
      nodup := hnd, occIff := hoc, cntEq := hcn, firstEq := h.firstEq
      lastEq := by
        show p.tasks.head = ((a :: r) ++ [p.tasks.head]).getLast?.getD 255
        rw [List.getLast?_concat]; rfl
      lc := LC_snoc (List.cons_ne_nil a r) h.nodup hnotin (fun z hz => h.linksLen ▸ hlo z hz) (h.linksLen ▸ hlt) hnone
        h.lastEq.symm h.lc
      clean := fun j hj hn => by
        have hn1 : j ∉ a :: r := fun hm => hn (List.mem_append_left _ hm)
        have hn2 : p.tasks.head ≠ j := fun e => hn (e ▸ List.mem_append_right _ (List.mem_singleton_self _))
        have hn3 : p.last ≠ j := fun e => hn1 (e ▸ hlm)
        show linkAt ((p.links.set _ _).set _ _) j = Link.none
        rw [linkAt_set_ne _ _ hn2, linkAt_set_ne _ _ hn3]
        exact h.clean j (by rw [← hcap]; exact hj) hn1 }

/-- the link surgery of `PlanT::remove(index)` -/
def unlink (links : List Link) (cap x : Nat) : List Link :=
  let link := linkAt links x
  let links1 := if link.prev < cap then links.set link.prev { linkAt links link.prev with next := link.next } else links
  let links2 := if link.next < cap then links1.set link.next { linkAt links1 link.next with prev := link.prev } else links1
  links2.set x Link.none

theorem remove_eq (p : Plan) (x : Nat) :
    remove p x =
      { tasks := TaskList.remove p.tasks x
        links := unlink p.links p.tasks.cap x
        first := if (linkAt p.links x).prev < p.tasks.cap then p.first else (linkAt p.links x).next
        last := if (linkAt p.links x).next < p.tasks.cap then p.last else (linkAt p.links x).prev } := by
  unfold remove unlink
  simp only [ite_prod]

/-- on an array of `cap` cells the two range tests of `unlink` are those of `List.set` itself -/
theorem unlink_eq {links : List Link} {cap x a c : Nat} (hlen : links.length = cap)
    (ha : (linkAt links x).prev = a) (hc : (linkAt links x).next = c) :
    unlink links cap x =
      ((links.set a { linkAt links a with next := c }).set c
        { linkAt (links.set a { linkAt links a with next := c }) c with prev := a }).set x Link.none := by
  subst ha hc
  unfold unlink
  simp only
  rw [ite_set_eq hlen, ite_set_eq (List.length_set.trans hlen)]

theorem unlink_length {links : List Link} {cap : Nat} (x : Nat) (hlen : links.length = cap) :
    (unlink links cap x).length = cap := by
  rw [unlink_eq hlen rfl rfl, List.length_set, List.length_set, List.length_set]; exact hlen

theorem unlink_other {links : List Link} {cap x z : Nat} (hlen : links.length = cap)
    (h1 : z ≠ (linkAt links x).prev) (h2 : z ≠ (linkAt links x).next) (h3 : z ≠ x) :
    linkAt (unlink links cap x) z = linkAt links z := by
  rw [unlink_eq hlen rfl rfl, linkAt_set_ne _ _ h3.symm, linkAt_set_ne _ _ h2.symm, linkAt_set_ne _ _ h1.symm]

theorem unlink_self {links : List Link} {cap x : Nat} (hlen : links.length = cap) (hx : x < cap) :
    linkAt (unlink links cap x) x = Link.none := by
  rw [unlink_eq hlen rfl rfl]
  exact linkAt_set_self _ _ (by rw [List.length_set, List.length_set, hlen]; exact hx)

/-- `unlink` turns the chain of `pre ++ x :: post` into the chain of `pre ++ post` -/
theorem LC_unlink {links : List Link} {cap x : Nat} {pre post : List Nat} (hlen : links.length = cap) (hcap : cap ≤ 255)
    (hnd : (pre ++ x :: post).Nodup) (hlt : ∀ z ∈ pre ++ x :: post, z < cap) (h : LC links 255 (pre ++ x :: post)) :
    LC (unlink links cap x) 255 (pre ++ post) := by
  rw [LC_iff_Seg, Seg_append] at h ⊢
  obtain ⟨s1, hp, hn, s2⟩ := h
  obtain ⟨ndpre, ndx, disj⟩ := List.nodup_append.mp hnd
  obtain ⟨hxpost, ndpost⟩ := List.nodup_cons.mp ndx
  have hxpre : x ∉ pre := fun hm => disj x hm x List.mem_cons_self rfl
  have h255 : ∀ z ∈ pre ++ x :: post, z ≠ 255 := fun z hz => Nat.ne_of_lt (Nat.lt_of_lt_of_le (hlt z hz) hcap)
  -- the new right neighbour of `pre` is not in `pre`, the new left neighbour of `post` not in `post`
  have hcpre : post.head?.getD 255 ∉ pre := fun hm =>
    ne_head?_getD (fun hz => disj _ hm _ (List.mem_cons_of_mem _ hz) rfl) (h255 _ (List.mem_append_left _ hm)) rfl
  have hapost : pre.getLast?.getD 255 ∉ post := fun hm =>
    ne_getLast?_getD (fun hz => disj _ hz _ (List.mem_cons_of_mem _ hm) rfl)
      (h255 _ (List.mem_append_right _ (List.mem_cons_of_mem _ hm))) rfl
  rw [unlink_eq hlen hp hn]
  exact ⟨Seg_set hxpre (Seg_set hcpre (Seg_setNext x _ ndpre
      (fun z hz => hlen ▸ hlt z (List.mem_append_left _ hz)) s1)),
    Seg_set hxpost (Seg_setPrev x _ ndpost
      (fun z hz => by rw [List.length_set, hlen]; exact hlt z (List.mem_append_right _ (List.mem_cons_of_mem _ hz)))
      (Seg_set hapost s2))⟩

/-- **`PlanT::remove(index)`** (iterator removal, consumption by firing, `clearTasks`): the task leaves
    the plan, every other task keeps its place and its contents, the slot returns to the free list -/
theorem remove_spec {p : Plan} {vac pre post : List Nat} {x : Nat} (h : PInv p vac (pre ++ x :: post)) :
    ∃ vac', PInv (remove p x) vac' (pre ++ post) ∧ (remove p x).tasks.cap = p.tasks.cap ∧
      (∀ j ∈ pre ++ post, at' (remove p x).tasks.items j = at' p.tasks.items j) := by
  have hlo := order_lt_cap h
  have hxmem : x ∈ pre ++ x :: post := List.mem_append_right _ List.mem_cons_self
  have hpos : 0 < p.tasks.count := h.cntEq ▸ List.length_pos_of_mem hxmem
  obtain ⟨vac', hinv, hcnt, hcapeq, hocc, hkeep⟩ := TaskList.remove_spec h.tl x ((h.occIff x).mp hxmem) hpos
  obtain ⟨m1, m2⟩ := LC_mid h.lc
  have hperm := List.perm_middle (a := x) (l₁ := pre) (l₂ := post)
  obtain ⟨hxnot, hnd'⟩ := List.nodup_cons.mp (hperm.nodup_iff.mp h.nodup)
  have hpoint : ∀ j ∈ pre ++ post, at' (TaskList.remove p.tasks x).items j = at' p.tasks.items j := fun j hj =>
    hkeep j ((h.occIff j).mp (hperm.mem_iff.mpr (List.mem_cons_of_mem _ hj))) (fun e => hxnot (e ▸ hj))
  rw [remove_eq]
  refine ⟨vac', ?_, hcapeq, hpoint⟩
  exact {
    tl := hinv
    linksLen := (unlink_length x h.linksLen).trans hcapeq.symm
    nodup := hnd'
    occIff := fun j => by
      show j ∈ pre ++ post ↔ Occ (TaskList.remove p.tasks x) vac' j
      rw [hocc j, ← h.occIff j, hperm.mem_iff, List.mem_cons]
      exact ⟨fun hj => ⟨Or.inr hj, fun e => hxnot (e ▸ hj)⟩, fun ⟨hj, hne⟩ => hj.resolve_left hne⟩
    cntEq := by
      show (pre ++ post).length = (TaskList.remove p.tasks x).count
      rw [hcnt, ← h.cntEq, hperm.length_eq]; rfl
    firstEq := by
      show (if _ then _ else _) = _
      rw [m1, m2]
      cases pre with
      | nil => exact if_neg (invalid_not_lt h)
      | cons a r =>
        rw [if_pos (hlo _ (List.mem_append_left _ (getLast?_getD_mem (List.cons_ne_nil a r) 255)))]; exact h.firstEq
    lastEq := by
      show (if _ then _ else _) = _
      rw [m1, m2]
      cases post with
      | nil => rw [List.append_nil]; exact if_neg (invalid_not_lt h)
      | cons a r =>
        rw [show (a :: r).head?.getD 255 = a from rfl,
          if_pos (hlo a (List.mem_append_right _ (List.mem_cons_of_mem _ List.mem_cons_self))), h.lastEq]
        simp only [getLast?_getD_append, getLast?_getD_cons]
    lc := LC_unlink h.linksLen h.tl.capLe h.nodup hlo h.lc
    clean := fun j hj hn => by
      have hj' : j < p.tasks.cap := by rw [← hcapeq]; exact hj
      show linkAt (unlink p.links p.tasks.cap x) j = Link.none
      by_cases hjx : j = x
      · rw [hjx]; exact unlink_self h.linksLen (hlo x hxmem)
      · have hjn : j ∉ pre ++ x :: post := fun hm => (List.mem_cons.mp (hperm.mem_iff.mp hm)).elim hjx hn
        have hj255 := ne_invalid h hj'
        rw [unlink_other h.linksLen
          (by rw [m1]; exact ne_getLast?_getD (fun hm => hn (List.mem_append_left _ hm)) hj255)
          (by rw [m2]; exact ne_head?_getD (fun hm => hn (List.mem_append_right _ hm)) hj255) hjx]
        exact h.clean j hj' hjn }

/-- which positions survive an iteration that removes where the mask says so (a mask that runs out
    keeps the rest) -/
def keepMask {α : Type} : List α → List Bool → List α
  | [], _ => []
  | x :: xs, mask => if mask.headD false then keepMask xs mask.tail else x :: keepMask xs mask.tail

theorem keepMask_nil {α : Type} : ∀ l : List α, keepMask l [] = l
  | [] => rfl
  | x :: xs => congrArg (x :: ·) (keepMask_nil xs)

theorem mem_of_mem_keepMask {α : Type} {z : α} {l : List α} : ∀ {mask : List Bool}, z ∈ keepMask l mask → z ∈ l := by
  induction l with
  | nil => exact fun hz => hz
  | cons x xs ih =>
    intro mask hz
    rw [keepMask] at hz
    split at hz
    · exact List.mem_cons_of_mem _ (ih hz)
    · exact (List.mem_cons.mp hz).elim (fun e => e ▸ List.mem_cons_self) (fun hm => List.mem_cons_of_mem _ (ih hm))

/-- `Iterator::next()` at the head of what is still to be visited -/
theorem iterNext_head {p : Plan} {vac done l : List Nat} (h : PInv p vac (done ++ l)) :
    iterNext p (l.head?.getD 255) = l.tail.head?.getD 255 := by
  unfold iterNext
  cases l with
  | nil => exact if_neg (invalid_not_lt h)
  | cons y r =>
    show (if y < p.tasks.cap then (linkAt p.links y).next else 255) = _
    rw [if_pos (order_lt_cap h y (List.mem_append_right _ List.mem_cons_self))]; exact (LC_mid h.lc).2

theorem iterLoop_invalid (fuel : Nat) (p : Plan) (it : Iter) (mask : List Bool) (hv : iterValid p it = false) :
    iterLoop fuel p it mask = ([], p) := by
  cases fuel with
  | zero => rfl
  | succ f => unfold iterLoop; rw [if_neg (by rw [hv]; exact Bool.false_ne_true)]

theorem iterLoop_valid (fuel : Nat) (p : Plan) (it : Iter) (mask : List Bool) (hv : iterValid p it = true) :
    iterLoop (fuel + 1) p it mask =
      ((it.curr, at' p.tasks.items it.curr) ::
          (iterLoop fuel (if mask.headD false then remove p it.curr else p)
            (iterAdvance (if mask.headD false then remove p it.curr else p) it) mask.tail).1,
        (iterLoop fuel (if mask.headD false then remove p it.curr else p)
            (iterAdvance (if mask.headD false then remove p it.curr else p) it) mask.tail).2) := by
  cases mask <;> rw [iterLoop, if_pos hv] <;> rfl

/-- **iteration with removal through the iterator**: visits every remaining task exactly once, in plan
    order, with its original contents — removing the current task does not disturb the rest — and
    leaves exactly the tasks the mask kept, in their original order -/
theorem iterLoop_spec : ∀ (todo : List Nat) (fuel : Nat) (p : Plan) (vac done : List Nat) (it : Iter) (mask : List Bool),
    PInv p vac (done ++ todo) → todo.length ≤ fuel →
    it.curr = todo.head?.getD 255 → it.next = todo.tail.head?.getD 255 →
    (iterLoop fuel p it mask).1 = todo.map (fun j => (j, at' p.tasks.items j)) ∧
    ∃ vac', PInv (iterLoop fuel p it mask).2 vac' (done ++ keepMask todo mask) ∧
      (iterLoop fuel p it mask).2.tasks.cap = p.tasks.cap ∧
      (∀ j ∈ done ++ keepMask todo mask, at' (iterLoop fuel p it mask).2.tasks.items j = at' p.tasks.items j) := by
  intro todo
  induction todo with
  | nil =>
    intro fuel p vac done it mask h _ hc _
    have hinv : iterValid p it = false := by
      unfold iterValid; rw [hc]; exact decide_eq_false (invalid_not_lt h)
    rw [iterLoop_invalid _ _ _ _ hinv]
    exact ⟨rfl, vac, h, rfl, fun _ _ => rfl⟩
  | cons x rest ih =>
    intro fuel p vac done it mask h hf hc hn
    cases fuel with
    | zero => exact absurd hf (Nat.not_succ_le_zero _)
    | succ f =>
      have hc : it.curr = x := hc
      have hn : it.next = rest.head?.getD 255 := hn
      have hval : iterValid p it = true := by
        unfold iterValid; rw [hc]
        exact decide_eq_true (order_lt_cap h x (List.mem_append_right _ List.mem_cons_self))
      -- whichever plan the mask decision leaves, the cached `next` is the head of `rest` there
      have step : ∀ (p' : Plan) (vac' done' : List Nat), PInv p' vac' (done' ++ rest) → _ := fun p' vac' done' h' =>
        ih f p' vac' done' (iterAdvance p' it) mask.tail h' (Nat.le_of_succ_le_succ hf) hn
          (by show iterNext p' it.next = _; rw [hn]; exact iterNext_head h')
      rw [iterLoop_valid _ _ _ _ hval, hc, keepMask]
      cases hm : mask.headD false with
      | false =>
        obtain ⟨i1, vac', i2, i3, i4⟩ := step p vac (done ++ [x]) (by rw [← List.append_cons]; exact h)
        simp only [Bool.false_eq_true, if_false]
        rw [List.append_cons]
        exact ⟨congrArg (_ :: ·) i1, vac', i2, i3, i4⟩
      | true =>
        obtain ⟨vac1, r1, rc, r3⟩ := remove_spec h
        obtain ⟨i1, vac', i2, i3, i4⟩ := step (remove p x) vac1 done r1
        simp only [if_true]
        refine ⟨?_, vac', i2, i3.trans rc, fun j hj => ?_⟩
        · rw [i1]
          exact congrArg (_ :: ·) (List.map_congr_left fun j hj => by rw [r3 j (List.mem_append_right _ hj)])
        · rw [i4 j hj]
          exact r3 j ((List.mem_append.mp hj).elim (List.mem_append_left _)
            (fun hm => List.mem_append_right _ (mem_of_mem_keepMask hm)))

theorem iterate_spec {p : Plan} {vac order : List Nat} (h : PInv p vac order) (mask : List Bool) :
    (iterate p mask).1 = order.map (fun j => (j, at' p.tasks.items j)) ∧
    ∃ vac', PInv (iterate p mask).2 vac' (keepMask order mask) ∧ (iterate p mask).2.tasks.cap = p.tasks.cap ∧
      ∀ j ∈ keepMask order mask, at' (iterate p mask).2.tasks.items j = at' p.tasks.items j := by
  refine iterLoop_spec order p.tasks.cap p vac [] (iterBegin p) mask h (order_length_le h) h.firstEq ?_
  show iterNext p p.first = _
  rw [h.firstEq]; exact iterNext_head (done := []) h

/-- the loop of `clearTasks`: removes every task from the front, following `next` read before removal -/
theorem clearLoop_spec : ∀ (todo : List Nat) (fuel : Nat) (p : Plan) (vac : List Nat),
    PInv p vac todo → todo.length ≤ fuel →
    ∃ vac', PInv (clearLoop fuel p (todo.head?.getD 255)) vac' [] ∧
      (clearLoop fuel p (todo.head?.getD 255)).tasks.cap = p.tasks.cap := by
  intro todo
  induction todo with
  | nil =>
    intro fuel p vac h _
    have e : clearLoop fuel p 255 = p := by cases fuel <;> rfl
    show ∃ vac', PInv (clearLoop fuel p 255) vac' [] ∧ (clearLoop fuel p 255).tasks.cap = _
    rw [e]; exact ⟨vac, h, rfl⟩
  | cons x rest ih =>
    intro fuel p vac h hf
    cases fuel with
    | zero => exact absurd hf (Nat.not_succ_le_zero _)
    | succ f =>
      have hne := ne_invalid h (order_lt_cap h x List.mem_cons_self)
      obtain ⟨vac1, r1, rc, _⟩ := remove_spec (pre := []) h
      obtain ⟨vac', i1, i2⟩ := ih f (remove p x) vac1 r1 (Nat.le_of_succ_le_succ hf)
      show ∃ vac', PInv (clearLoop (f + 1) p x) vac' [] ∧ (clearLoop (f + 1) p x).tasks.cap = _
      rw [clearLoop, if_pos hne, (LC_mid (pre := []) h.lc).2]
      exact ⟨vac', i1, i2.trans rc⟩

/-- **`PlanT::clearTasks()`**: the plan is empty afterwards and the invariant holds (every slot is back
    on the free list: `count = 0`) -/
theorem clearTasks_spec {p : Plan} {vac order : List Nat} (h : PInv p vac order) :
    ∃ vac', PInv (clearTasks p) vac' [] ∧ (clearTasks p).tasks.cap = p.tasks.cap := by
  unfold clearTasks
  split
  · obtain ⟨vac', r, rc⟩ := clearLoop_spec order p.tasks.cap p vac h (order_length_le h)
    rw [← h.firstEq] at r rc
    exact ⟨vac', { r with firstEq := rfl, lastEq := rfl }, rc⟩
  · next hf =>
    cases order with
    | nil => exact ⟨vac, h, rfl⟩
    | cons x r => exact absurd (h.firstEq ▸ order_lt_cap h x List.mem_cons_self) hf

end PlanList
end FFSM2
