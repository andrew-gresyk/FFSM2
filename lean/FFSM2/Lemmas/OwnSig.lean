import FFSM2.Lemmas.Steps
/-! Own-layer delivery signature for every method (not only lifecycle ones). -/
namespace FFSM2
open Step Ancestors

/-- `(method, state)` of every own-layer delivery (visible or not) -/
def ownSigEv : Ev → Option (Method × Nat)
  | .cb k _ _ => if k.layer == Layer.own then some (k.method, k.sid) else none
  | _ => none

def ownSig (es : List Ev) : List (Method × Nat) := es.filterMap ownSigEv

@[simp] theorem ownSig_nil : ownSig [] = [] := rfl
@[simp] theorem ownSig_append (a b : List Ev) : ownSig (a ++ b) = ownSig a ++ ownSig b := by simp [ownSig]

theorem ownSig_eq_nil_of_noCb {es : List Ev} (h : es.filter Ev.isCb = []) : ownSig es = [] :=
  List.filterMap_eq_nil_iff.mpr fun e he => by
    have := List.filter_eq_nil_iff.mp h e he
    cases e <;> first | rfl | exact absurd rfl this

theorem ownSig_method {q : Method → Bool} {es : List Ev} (h : ∀ k v o, Ev.cb k v o ∈ es → ¬ q k.method = true) :
    ∀ x ∈ ownSig es, ¬ q x.1 = true := by
  intro x hx
  obtain ⟨e, he, hex⟩ := List.mem_filterMap.mp hx
  cases e with
  | cb k v o => simp only [ownSigEv] at hex; split at hex <;> cases hex; exact h k v o he
  | _ => cases hex

theorem ownSig_logEv (env : Env) (c : Core) (r : LogRec) : ownSig (logEv env c r) = [] :=
  ownSig_eq_nil_of_noCb (filter_logEv methodPred_isCb env c r)

/-- **every delivery reaches the state's own callback exactly once** -/
theorem ownSig_deliver (env : Env) (m : Method) (sid : Nat) (cur pend : Tr) (s : St) :
    ownSig (deliver env m sid cur pend s).2 = [(m, sid)] := by
  rw [ownSig, deliver_filterMap (φ := ownSigEv) (ψ := fun l => if l == Layer.own then some (m, sid) else none)
    (fun _ _ => rfl) (fun _ _ => rfl) (fun _ _ _ => rfl), filterMap_ite_const, deep_own_any]
  rfl

/-- one phase: head then state (pre / mid phases) or state then head (post phases) -/
theorem ownSig_phase (env : Env) (m : Method) (hf : Bool) (s : St) :
    ownSig (phase env m hf s).2 =
      if hf then [(m, 255), (m, s.core.active)] else [(m, s.core.active), (m, 255)] := by
  unfold phase
  dsimp only
  cases hf
  · simp only [Bool.false_eq_true, if_false, Step.seq, Step.modify, ownSig_append, List.append_nil]
    rw [ownSig_deliver, ownSig_deliver]; rfl
  · simp only [if_true, Step.seq, Step.modify, ownSig_append, List.append_nil]
    rw [ownSig_deliver, ownSig_deliver]; rfl

end FFSM2
