import FFSM2.Lemmas.Prov
import FFSM2.Lemmas.World
import FFSM2.Lemmas.Effect
/-! Provenance lifted to API calls and whole histories. -/
namespace FFSM2
open Step

/-- the transition (or task) an API call itself requests -/
def Op.ext : Op → List Tr
  | .changeTo _ d | .immediateChangeTo _ d | .replayTransition _ d | .replayEnter _ d => [⟨255, d, none⟩]
  | .changeWith _ d p | .immediateChangeWith _ d p => [⟨255, d, some p⟩]
  | .planAppend _ o d p => [⟨o, d, p⟩]
  | _ => []

/-- the test-harness conveniences whose argument is read from another instance -/
def Op.isReplayFrom : Op → Bool
  | .replayFrom .. | .replayEnterFrom .. => true
  | _ => false

def WProv (M : Tr → Prop) (w : World) : Prop := ∀ i c, w.get i = some c → Prov M c

theorem prov_init (M : Tr → Prop) (cfg : Cfg) (lg : Bool) : Prov M (initCore cfg lg) :=
  ⟨trOk_default M, trOk_default M, (by intro t ht; cases ht)⟩

theorem obsAll_single (M : Tr → Prop) {e : Ev} (h : e.isCb = false) : ObsAll M [e] := by
  intro x hx k vis o hk
  rw [← List.mem_singleton.mp hx, hk] at h
  cases h

/-- outcome of a call: if the requests its callbacks made are in `M`, the world keeps provenance and every
    observation handed out is of requested transitions -/
def Good (M : Tr → Prop) (r : World × List Ev) : Prop := ActsIn M r.2 → WProv M r.1 ∧ ObsAll M r.2

/-- an effect that keeps provenance does so in whatever world it is realized -/
theorem Effect.Holds.good {M : Tr → Prop} {e : Effect} (h : e.Holds (Prov M) (KeepsM M)) (cfg : Cfg) {w : World}
    (hw : WProv M w) (i k : Nat) (name : String) : Good M (e.realize cfg w i k name) := by
  intro ha
  cases h with
  | reject => exact ⟨hw, obsAll_single M rfl⟩
  | run hc hf =>
    obtain ⟨p, o⟩ := hf _ (actsIn_append ha).1 hc
    exact ⟨World.All.put (Q := Prov M) hw _ fun _ e => (by cases e; exact p), obsAll_append o (obsAll_single M rfl)⟩
  | gone hc hf =>
    obtain ⟨_, o⟩ := hf _ (actsIn_append ha).1 hc
    exact ⟨World.All.put (Q := Prov M) hw _ fun _ e => (by cases e), obsAll_append o (obsAll_single M rfl)⟩
  | peek _ => exact ⟨hw, obsAll_single M rfl⟩
  | put hc => exact ⟨World.All.put (Q := Prov M) hw _ fun _ e => (by cases e; exact hc), obsAll_single M rfl⟩

/-- a plan edit made from outside: what it appends was requested by the call -/
theorem keepsM_planEdit {M : Tr → Prop} (env : Env) (a : Action) (hM : ∀ t, (Ev.act ⟨0, 0, 0, .update, 255, .own⟩ a).made = some t → M t) :
    KeepsM M (applyAction env 255 a) := fun s =>
  provJ_noCb (applyAction_noCb env 255 a s) fun _ => prov_applyAction env 255 _ rfl a hM s

/-- `step` decides on an effect that keeps provenance, when the transition the call itself requests is in `M` -/
theorem effect_prov {M : Tr → Prop} (env : Env) (w : World) (op : Op) (hext : ∀ t ∈ op.ext, M t)
    (slot : Option Core) (hs : ∀ c, slot = some c → Prov M c) : (effect env w op slot).Holds (Prov M) (KeepsM M) := by
  have ext : ∀ t, op.ext = [t] → M t := fun t e => hext t (by rw [e]; exact List.mem_singleton_self t)
  cases slot with
  | none =>
    cases op with
    | construct i lg => exact .ite (.run (prov_init M _ _) (keepsM_skip M)) (.run (prov_init M _ _) (keepsM_initialEnter _))
    | _ => exact .reject
  | some c =>
    have hc := hs c rfl
    cases op with
    | construct i lg | copy i src | replayFrom i src | replayEnterFrom i src => exact .reject
    | destroy i => exact .ite (.gone hc (keepsM_skip M)) (.gone hc (keepsM_finalExit _))
    | enter i => exact .guarded hc (keepsM_initialEnter _)
    | exit i => exact .guarded hc (keepsM_finalExit _)
    | update i | react i => exact .guarded hc (keepsM_cycle _ _ _ _)
    | query i => exact .guarded hc (keepsM_query _)
    | changeTo i d | changeWith i d p => exact .guarded hc (keepsM_extChange _ _ _ (ext _ rfl))
    | immediateChangeTo i d | immediateChangeWith i d p =>
      exact .guarded hc (KeepsM.seq (keepsM_extChange _ _ _ (ext _ rfl)) (keepsM_processRequest _))
    | succeed i id | fail i id => exact .guarded hc (keepsM_extStatus _ _ _)
    | planAppend i o d p => exact .guarded hc (keepsM_planEdit _ _ fun t e => by cases e; exact ext _ rfl)
    | planClear i | planRemove i mask => exact .guarded hc (keepsM_planEdit _ _ fun t e => by cases e)
    | save i => exact .ite (.peek hc) .reject
    | load i src =>
      show Effect.Holds _ _ (match w.get src with | some sc => _ | none => _)
      cases w.get src with
      | none => exact .reject
      | some sc => exact .guarded hc (keepsM_load _ _)
    | replayEnter i d => exact .guarded hc (keepsM_replayEnter _ d (ext _ rfl))
    | replayTransition i d =>
      exact .ite (.ite (.run hc (keepsM_modifyCore fun c h => ⟨h.request, trOk_clear M _, h.plan⟩))
        (.run hc (keepsM_replayTransition _ d (ext _ rfl)))) .reject
    | attachLogger i on => exact .guarded hc (keepsM_modifyCore fun c h => ⟨h.request, h.prev, h.plan⟩)

theorem stepAll_prov {M : Tr → Prop} (cfg : Cfg) (beh : Beh) (w : World) (k : Nat) (op : Op) (hw : WProv M w)
    (hext : ∀ t ∈ op.ext, M t) (hnr : op.isReplayFrom = false) : Good M (stepAll cfg beh w k op) := by
  rw [stepAll_eq]
  refine Effect.Holds.good ?_ cfg hw _ k _
  have h := effect_prov ⟨cfg, beh, op.inst, k⟩ w op hext _ (hw op.inst)
  cases op with
  | copy i src =>
    show Effect.Holds _ _ (match w.get i, w.get src with | none, some sc => .put sc | _, _ => .reject)
    cases w.get i <;> cases hs : w.get src <;> first | exact .reject | exact .put (hw _ _ hs)
  | replayFrom i src | replayEnterFrom i src => cases hnr
  | _ => exact h

theorem runFrom_prov {M : Tr → Prop} (cfg : Cfg) (beh : Beh) (ops : List Op) (w : World) (k : Nat) (hw : WProv M w)
    (hext : ∀ op ∈ ops, ∀ t ∈ op.ext, M t) (hnr : ∀ op ∈ ops, op.isReplayFrom = false) : Good M (runFrom cfg beh w k ops) :=
  fun ha => (runFrom_induct cfg beh (I := fun _ => True) (R := fun a es b => WProv M a → ActsIn M es → WProv M b ∧ ObsAll M es)
    (fun _ hw _ => ⟨hw, obsAll_nil M⟩)
    (fun h1 h2 hw ha =>
      have ⟨w1, o1⟩ := h1 hw (actsIn_append ha).1
      have ⟨w2, o2⟩ := h2 w1 (actsIn_append ha).2
      ⟨w2, obsAll_append o1 o2⟩)
    ops k (fun w k op hop _ _ => ⟨trivial, fun hw => stepAll_prov cfg beh w k op hw (hext op hop) (hnr op hop)⟩) w trivial).2 hw ha

/-- the transitions and tasks requested anywhere in a history: by its API calls, or by its callbacks -/
def MadeBy (ops : List Op) (evs : List Ev) (t : Tr) : Prop :=
  (∃ op ∈ ops, t ∈ op.ext) ∨ (∃ e ∈ evs, e.made = some t)

end FFSM2
