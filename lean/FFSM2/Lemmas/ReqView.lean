import FFSM2.Lemmas.Processing
/-!
# The request a callback is shown is the request that is waiting

`ShowsReq f`: the step leaves the machine's outstanding request exactly as it found it and every delivery it
makes shows exactly that request.  It holds of every lifecycle delivery (`enter` / `exit` / `reenter` receive a
plan control, `query` a const control: neither can make a request) and therefore of the applied change of a
processing point and of the replay; `Starts f`: the first delivery of `f` shows the request `f` started with.
-/
namespace FFSM2
open Step Ancestors

def ShowsReq (f : Step) : Prop :=
  ∀ s, (f s).1.core.request = s.core.request ∧
    ∀ e ∈ (f s).2, ∀ k vis o, e = Ev.cb k vis o → o.request = s.core.request.canon

/-- `ShowsReq` is `Sat Shown`, by unfolding -/
abbrev Shown (s : St) (es : List Ev) (s' : St) : Prop :=
  s'.core.request = s.core.request ∧ ∀ e ∈ es, ∀ k vis o, e = Ev.cb k vis o → o.request = s.core.request.canon

theorem showsReq_sees : Sees (fun s => s.core.request) Shown where
  nil _ := ⟨rfl, fun _ h => nomatch h⟩
  app h1 h2 := ⟨h2.1.trans h1.1, fun e he => (List.mem_append.mp he).elim (h1.2 e) fun he k vis o hk => h1.1 ▸ h2.2 e he k vis o hk⟩
  silent h := ⟨h, fun _ h => nomatch h⟩

theorem request_ignored : IgnoresLife fun s => s.core.request := fun _ _ _ _ _ => rfl

theorem ShowsReq.seq {f g : Step} (hf : ShowsReq f) (hg : ShowsReq g) : ShowsReq (f ⋙ g) := Sat.seq showsReq_sees.toComposes hf hg
theorem showsReq_modify {m : St → St} (h : ∀ s, (m s).core.request = s.core.request) : ShowsReq (Step.modify m) :=
  sees_modify showsReq_sees h
theorem shown_of_noCb {s s' : St} {es : List Ev} (hr : s'.core.request = s.core.request) (h : es.filter Ev.isCb = []) : Shown s es s' :=
  ⟨hr, fun e he k vis o hk => by
    have : e ∈ es.filter Ev.isCb := List.mem_filter.mpr ⟨he, by rw [hk]; rfl⟩
    rw [h] at this; cases this⟩

/-- a control that is neither full nor guard cannot touch the request -/
theorem request_applyAction (env : Env) (fl : Flavour) (sid : Nat) (a : Action) (hfl : fl = .plan ∨ fl = .const)
    (hp : permitted env.cfg fl sid a = true) (s : St) : (applyAction env sid a s).1.core.request = s.core.request := by
  cases a with
  | changeTo d => rcases hfl with rfl | rfl <;> simp [permitted] at hp
  | changeWith d p => rcases hfl with rfl | rfl <;> simp [permitted] at hp
  | planAppend o d p => rw [applyAction_planAppend]
  | _ => rfl

/-- every delivery of a lifecycle or query callback shows the waiting request and leaves it waiting -/
theorem showsReq_deliver (env : Env) (m : Method) (hfl : m.flavour = .plan ∨ m.flavour = .const) (sid : Nat) (cur pend : Tr) :
    ShowsReq (deliver env m sid cur pend) :=
  sat_deliver showsReq_sees.toComposes
    (fun _ => shown_of_noCb rfl (by split <;> simp [filter_logEv methodPred_isCb]))
    (fun _ _ => ⟨rfl, fun e he k vis o hk => by cases (List.mem_singleton.mp he).symm.trans hk; rfl⟩)
    (fun _ _ a s _ hp => shown_of_noCb (request_applyAction env _ sid a hfl hp s) (silent_applyAction methodPred_isCb env sid a s))

theorem showsReq_changeToRequested (env : Env) (cur : Tr) : ShowsReq (changeToRequested env cur) :=
  sees_changeToRequested showsReq_sees request_ignored fun m _ hm => showsReq_deliver env m (.inl hm) _ _ _

theorem showsReq_deepEnter (env : Env) (cur : Tr) : ShowsReq (deepEnter env cur) :=
  sees_deepEnter showsReq_sees request_ignored fun m _ hm => showsReq_deliver env m (.inl hm) _ _ _

theorem showsReq_applySurvivor (env : Env) (cur : Tr) : ShowsReq (applySurvivor env cur) :=
  sees_applySurvivor showsReq_sees request_ignored fun m _ hm => showsReq_deliver env m (.inl hm) _ _ _

theorem showsReq_finishProcessing (env : Env) (cur : Tr) : ShowsReq (finishProcessing env cur) :=
  sees_finishProcessing showsReq_sees (fun _ _ _ => rfl) cur

theorem showsReq_query (env : Env) : ShowsReq (query env) :=
  sat_query showsReq_sees.toComposes fun _ => showsReq_deliver env .query (Or.inr rfl) _ _ _

theorem showsReq_replayTransition (env : Env) (d : Nat) : ShowsReq (replayTransition env d) :=
  sees_replayTransition showsReq_sees request_ignored (fun _ _ _ => rfl) (fun m _ hm => showsReq_deliver env m (.inl hm) _ _ _) d

/-- the step delivers something, and its first delivery shows the request the step started with -/
def Starts (f : Step) : Prop :=
  ∀ s, ∃ k vis o rest, (f s).2.filter Ev.isCb = Ev.cb k vis o :: rest ∧ o.request = s.core.request.canon

theorem Starts.seq_left {f : Step} (g : Step) (hf : Starts f) : Starts (f ⋙ g) := by
  intro s
  obtain ⟨k, vis, o, rest, h1, h2⟩ := hf s
  refine ⟨k, vis, o, rest ++ (g (f s).1).2.filter Ev.isCb, ?_, h2⟩
  simp only [Step.seq, List.filter_append, h1, List.cons_append]

/-- a silent prefix that keeps the request does not matter -/
theorem Starts.after {f g : Step} (hs : Silent Ev.isCb f) (hr : ∀ s, (f s).1.core.request = s.core.request) (hg : Starts g) :
    Starts (f ⋙ g) := by
  intro s
  obtain ⟨k, vis, o, rest, h1, h2⟩ := hg (f s).1
  refine ⟨k, vis, o, rest, ?_, by rw [h2, hr]⟩
  simp only [Step.seq, List.filter_append, hs s, List.nil_append, h1]

theorem starts_dep {g : St → Step} (h : ∀ s0, Starts (g s0)) : Starts (fun s => g s s) := fun s => h s s

theorem starts_deliverLayer (env : Env) (m : Method) (sid : Nat) (cur pend : Tr) (layer : Layer) :
    Starts (deliverLayer env m sid cur pend layer) := fun _ => ⟨_, _, _, _, rfl, rfl⟩

/-- every delivery starts with a callback that shows the waiting request -/
theorem starts_deliver (env : Env) (m : Method) (sid : Nat) (cur pend : Tr) : Starts (deliver env m sid cur pend) := by
  unfold deliver
  refine Starts.after (silent_emit fun s => by split <;> simp [filter_logEv methodPred_isCb]) (fun _ => rfl) ?_
  have hne := deep_ne_nil (env.cfg.injections sid) m
  cases hd : deep (env.cfg.injections sid) m with
  | nil => exact absurd hd hne
  | cons l ls =>
    simp only [List.map_cons, seqList]
    exact Starts.seq_left _ (starts_deliverLayer env m sid cur pend l)

theorem starts_phase (env : Env) (m : Method) (hf : Bool) : Starts (phase env m hf) := by
  intro s
  unfold phase
  dsimp only
  cases hf
  · simp only [Bool.false_eq_true, if_false]
    exact (Starts.seq_left _ (Starts.seq_left _ (Starts.seq_left _ (starts_deliver env m _ {} {})))) s
  · simp only [if_true]
    exact (Starts.seq_left _ (Starts.seq_left _ (starts_deliver env m _ {} {}))) s

theorem starts_cycle (env : Env) (pre mid post : Method) : Starts (cycle env pre mid post) := by
  unfold cycle
  exact Starts.seq_left _ (Starts.seq_left _ (Starts.seq_left _ (Starts.seq_left _
    (Starts.after (silent_modify _ _) (fun _ => rfl) (starts_phase env pre _)))))

end FFSM2
