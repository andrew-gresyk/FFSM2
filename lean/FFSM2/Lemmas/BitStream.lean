import FFSM2.BitStream
import FFSM2.Lemmas.ListAux
/-! Helper lemmas for the bit stream (C13): the buffer as one little-endian number (`bitsOf`), one iteration of
    `write<N>` / `read<N>` as an equation and as arithmetic on that number, and from these the two loops. -/
namespace FFSM2
namespace BitStream

theorem bytesOk_cons {b : Nat} {bs : List Nat} : BytesOk (b :: bs) ↔ b < 256 ∧ BytesOk bs := by
  simp [BytesOk]

theorem bytesOk_set {buf : List Nat} {k x : Nat} (h : BytesOk buf) (hx : x < 256) :
    BytesOk (buf.set k x) := forall_mem_set h hx

theorem bytesOk_replicate (n : Nat) : BytesOk (List.replicate n 0) := by
  intro b hb; have := List.eq_of_mem_replicate hb; omega

theorem bitsOf_replicate_zero (n : Nat) : bitsOf (List.replicate n 0) = 0 := by
  induction n with
  | zero => rfl
  | succ n ih => simp [List.replicate_succ, bitsOf, ih]

theorem bitsOf_lt {buf : List Nat} (h : BytesOk buf) : bitsOf buf < 256 ^ buf.length := by
  induction buf with
  | nil => simp [bitsOf]
  | cons b bs ih =>
    have ⟨hb, hbs⟩ := bytesOk_cons.mp h
    have := ih hbs
    simp only [bitsOf, List.length_cons, Nat.pow_succ]
    omega

theorem bitsOf_set_add {buf : List Nat} {k d : Nat} (hk : k < buf.length) :
    bitsOf (buf.set k (buf.getD k 0 + d)) = bitsOf buf + d * 256 ^ k := by
  induction buf generalizing k with
  | nil => simp at hk
  | cons b bs ih =>
    cases k with
    | zero => exact (Nat.add_right_comm b d _).trans (congrArg _ (Nat.mul_one d).symm)
    | succ k =>
      have hk' : k < bs.length := Nat.lt_of_succ_lt_succ hk
      simp only [List.set_cons_succ, bitsOf, List.getD_cons_succ, ih hk', Nat.pow_succ]
      rw [Nat.mul_add, Nat.add_assoc, Nat.mul_left_comm, Nat.mul_comm 256 (256 ^ k)]

theorem getD_eq_div_mod {buf : List Nat} (h : BytesOk buf) (k : Nat) :
    buf.getD k 0 = bitsOf buf / 256 ^ k % 256 := by
  induction buf generalizing k with
  | nil => simp [bitsOf]
  | cons b bs ih =>
    have ⟨hb, hbs⟩ := bytesOk_cons.mp h
    cases k with
    | zero =>
      show b = (b + 256 * bitsOf bs) / 256 ^ 0 % 256
      rw [Nat.pow_zero, Nat.div_one, Nat.add_mul_mod_self_left, Nat.mod_eq_of_lt hb]
    | succ k =>
      simp only [List.getD_cons_succ, bitsOf, ih hbs k, Nat.pow_succ]
      rw [Nat.mul_comm (256 ^ k) 256, ← Nat.div_div_eq_div_mul, Nat.add_mul_div_left _ _ (Nat.succ_pos _), Nat.div_eq_of_lt hb,
        Nat.zero_add]

theorem shiftRight3 (c : Nat) : c >>> 3 = c / 8 := by
  simp [Nat.shiftRight_eq_div_pow]

theorem and7 (c : Nat) : c &&& 7 = c % 8 := by
  have : (7 : Nat) = 2 ^ 3 - 1 := by decide
  rw [this, Nat.and_two_pow_sub_one_eq_mod]

theorem two_pow_cursor (c : Nat) : 2 ^ c = 2 ^ (c % 8) * 256 ^ (c / 8) := by
  have h256 : (256 : Nat) = 2 ^ 8 := by decide
  rw [h256, ← Nat.pow_mul, ← Nat.pow_add, Nat.mod_add_div]

/-- a value of `k` bits placed above `c` occupied bits stays below `2 ^ (c + k)` -/
theorem add_shift_lt {a m c k : Nat} (ha : a < 2 ^ c) (hm : m < 2 ^ k) : a + m * 2 ^ c < 2 ^ (c + k) := by
  have h : (m + 1) * 2 ^ c ≤ 2 ^ k * 2 ^ c := Nat.mul_le_mul_right _ hm
  rw [Nat.succ_mul] at h
  rw [Nat.pow_add, Nat.mul_comm (2 ^ c)]
  omega

/-- the truncated chunk: `(itemBits << s) & 0xFF = (itemBits mod 2^(8-s)) << s` -/
theorem chunk_eq {x s : Nat} (hs : s ≤ 8) : (x <<< s) % 256 = (x % 2 ^ (8 - s)) * 2 ^ s := by
  have : (256 : Nat) = 2 ^ (8 - s) * 2 ^ s := by
    rw [← Nat.pow_add]; have : 8 - s + s = 8 := by omega
    rw [this]
  rw [Nat.shiftLeft_eq, this, Nat.mul_mod_mul_right]

/-- OR-ing a chunk above the occupied low bits is an addition. -/
theorem or_chunk {b m s : Nat} (hb : b < 2 ^ s) : b ||| (m * 2 ^ s) = b + m * 2 ^ s := by
  rw [Nat.or_comm, ← Nat.shiftLeft_eq, ← Nat.shiftLeft_add_eq_or_of_lt hb, Nat.add_comm]

/-- the byte under the cursor has no bit at or above the cursor's bit offset -/
theorem byte_lt_of_bits_lt {buf : List Nat} (h : BytesOk buf) {c : Nat}
    (hb : bitsOf buf < 2 ^ c) : buf.getD (c / 8) 0 < 2 ^ (c % 8) := by
  rw [getD_eq_div_mod h]
  have h1 : bitsOf buf / 256 ^ (c / 8) < 2 ^ (c % 8) := by
    apply Nat.div_lt_of_lt_mul
    rw [Nat.mul_comm, ← two_pow_cursor]; exact hb
  exact Nat.lt_of_le_of_lt (Nat.mod_le _ _) h1

theorem mod_chunk {x iw s : Nat} (hx : x < 2 ^ iw) :
    x % 2 ^ (8 - s) = x % 2 ^ (min (8 - s) iw) := by
  by_cases h : 8 - s ≤ iw
  · rw [Nat.min_eq_left h]
  · have h' : iw ≤ 8 - s := by omega
    rw [Nat.min_eq_right h', Nat.mod_eq_of_lt hx]
    apply Nat.mod_eq_of_lt
    exact Nat.lt_of_lt_of_le hx (Nat.pow_le_pow_right (by decide) h')

theorem writeLoop_done (fuel : Nat) (buf : List Nat) (c x : Nat) : writeLoop fuel buf c x 0 = (buf, c) := by
  cases fuel <;> rfl

theorem writeLoop_step (fuel : Nat) (buf : List Nat) (c x : Nat) {iw : Nat} (hw : iw ≠ 0) :
    writeLoop (fuel + 1) buf c x iw =
      writeLoop fuel (buf.set (c / 8) (buf.getD (c / 8) 0 ||| (x <<< (c % 8)) % 256))
        (c + min (8 - c % 8) iw) (x >>> min (8 - c % 8) iw) (iw - min (8 - c % 8) iw) := by
  rw [writeLoop, if_neg hw, shiftRight3, and7]

theorem readLoop_done (fuel tb : Nat) (buf : List Nat) (c item ic : Nat) :
    readLoop fuel tb buf c item ic 0 = (item, c) := by
  cases fuel <;> rfl

theorem readLoop_step (fuel tb : Nat) (buf : List Nat) (c item ic : Nat) {iw : Nat} (hw : iw ≠ 0) :
    readLoop (fuel + 1) tb buf c item ic iw =
      readLoop fuel tb buf (c + min (8 - c % 8) iw)
        (item ||| ((buf.getD (c / 8) 0 >>> (c % 8) &&& ((1 <<< min (8 - c % 8) iw) - 1) % 256) <<< ic) % 2 ^ tb)
        (ic + min (8 - c % 8) iw) (iw - min (8 - c % 8) iw) := by
  rw [readLoop, if_neg hw, shiftRight3, and7]

/-- one iteration's store, on the buffer as a number: OR-ing a chunk of at most `8 - c % 8` bits into the byte under a
    cursor above which nothing is set adds the chunk at bit `c` -/
theorem bitsOf_or_chunk {buf : List Nat} {c m : Nat} (hok : BytesOk buf) (hb : bitsOf buf < 2 ^ c)
    (hk : c / 8 < buf.length) (hm : m < 2 ^ (8 - c % 8)) :
    BytesOk (buf.set (c / 8) (buf.getD (c / 8) 0 ||| m * 2 ^ (c % 8))) ∧
    bitsOf (buf.set (c / 8) (buf.getD (c / 8) 0 ||| m * 2 ^ (c % 8))) = bitsOf buf + m * 2 ^ c := by
  have hbyte := byte_lt_of_bits_lt hok hb
  rw [or_chunk hbyte]
  refine ⟨bytesOk_set hok ?_, ?_⟩
  · have := add_shift_lt hbyte hm
    rwa [Nat.add_sub_cancel' (Nat.le_of_lt (Nat.mod_lt c (by decide)))] at this
  · rw [bitsOf_set_add hk, Nat.mul_assoc, ← two_pow_cursor]

/-- splitting off the low `cw` bits: `x·2^c = (x mod 2^cw)·2^c + (x div 2^cw)·2^(c+cw)` -/
theorem split_low (x c cw : Nat) : x % 2 ^ cw * 2 ^ c + x >>> cw * 2 ^ (c + cw) = x * 2 ^ c := by
  rw [Nat.shiftRight_eq_div_pow, Nat.pow_add, Nat.mul_comm (2 ^ c), ← Nat.mul_assoc, ← Nat.add_mul,
    Nat.add_comm, Nat.div_add_mod']

theorem writeLoop_length : ∀ (fuel : Nat) (buf : List Nat) (c x iw : Nat),
    (writeLoop fuel buf c x iw).1.length = buf.length
  | 0, _, _, _, _ => rfl
  | fuel + 1, buf, c, x, iw => by
    rw [writeLoop]; split
    · rfl
    · rw [writeLoop_length, List.length_set]

/-- the chunk width of an iteration that still has bits to move -/
theorem chunkWidth_bounds (c : Nat) {iw : Nat} (hw : iw ≠ 0) :
    1 ≤ min (8 - c % 8) iw ∧ min (8 - c % 8) iw ≤ iw ∧ min (8 - c % 8) iw ≤ 8 - c % 8 :=
  ⟨Nat.le_min.mpr ⟨Nat.sub_pos_of_lt (Nat.mod_lt c (Nat.succ_pos _)), Nat.pos_of_ne_zero hw⟩,
    Nat.min_le_right .., Nat.min_le_left ..⟩

/-- what is left after an iteration that moves `cw` bits -/
theorem chunk_rest {cw iw fuel : Nat} (h1 : 1 ≤ cw) (h2 : cw ≤ iw) (hf : iw ≤ fuel + 1) (c : Nat) :
    iw - cw ≤ fuel ∧ c + cw + (iw - cw) = c + iw :=
  ⟨Nat.sub_le_of_le_add (Nat.le_trans hf (Nat.add_le_add_left h1 fuel)), by rw [Nat.add_assoc, Nat.add_sub_cancel' h2]⟩

theorem writeLoop_bits : ∀ (fuel : Nat) (buf : List Nat) (c x iw : Nat),
    BytesOk buf → bitsOf buf < 2 ^ c → x < 2 ^ iw → iw ≤ fuel → c + iw ≤ 8 * buf.length →
    BytesOk (writeLoop fuel buf c x iw).1 ∧ (writeLoop fuel buf c x iw).2 = c + iw ∧
    bitsOf (writeLoop fuel buf c x iw).1 = bitsOf buf + x * 2 ^ c
  | fuel, buf, c, x, 0, hok, _, hx, _, _ => by
    rw [writeLoop_done, Nat.lt_one_iff.mp hx]
    exact ⟨hok, rfl, by rw [Nat.zero_mul]; rfl⟩
  | fuel + 1, buf, c, x, iw + 1, hok, hb, hx, hf, hcap => by
    rw [writeLoop_step _ _ _ _ (Nat.succ_ne_zero iw), chunk_eq (Nat.le_of_lt (Nat.mod_lt c (by decide))), mod_chunk hx]
    obtain ⟨hcw1, hcw2, hcw3⟩ := chunkWidth_bounds c (Nat.succ_ne_zero iw)
    generalize min (8 - c % 8) (iw + 1) = cw at *
    have hmlt : x % 2 ^ cw < 2 ^ cw := Nat.mod_lt _ (Nat.two_pow_pos _)
    obtain ⟨hok', hbits'⟩ := bitsOf_or_chunk hok hb
      (Nat.div_lt_of_lt_mul (Nat.lt_of_lt_of_le (Nat.lt_add_of_pos_right iw.succ_pos) hcap))
      (Nat.lt_of_lt_of_le hmlt (Nat.pow_le_pow_right (by decide) hcw3))
    have hq : x >>> cw < 2 ^ (iw + 1 - cw) := by
      rw [Nat.shiftRight_eq_div_pow]
      apply Nat.div_lt_of_lt_mul
      rw [← Nat.pow_add, Nat.add_sub_cancel' hcw2]; exact hx
    obtain ⟨hf', hc'⟩ := chunk_rest hcw1 hcw2 hf c
    obtain ⟨r1, r2, r3⟩ := writeLoop_bits fuel _ (c + cw) (x >>> cw) (iw + 1 - cw) hok'
      (by rw [hbits']; exact add_shift_lt hb hmlt)
      hq hf' (by rw [List.length_set, hc']; exact hcap)
    refine ⟨r1, r2.trans hc', ?_⟩
    rw [r3, hbits', Nat.add_assoc, split_low]

theorem mod_div_mod {x a s c : Nat} (h : s + c ≤ a) :
    (x % 2 ^ a) / 2 ^ s % 2 ^ c = x / 2 ^ s % 2 ^ c := by
  have ha : 2 ^ a = 2 ^ s * 2 ^ (a - s) := by
    rw [← Nat.pow_add, Nat.add_sub_cancel' (Nat.le_trans (Nat.le_add_right s c) h)]
  rw [ha, Nat.mod_mul_right_div_self]
  exact Nat.mod_mod_of_dvd _ (Nat.pow_dvd_pow 2 (Nat.le_sub_of_add_le' h))

/-- the chunk extracted from the byte under the cursor -/
theorem byteChunk_eq {buf : List Nat} (h : BytesOk buf) (c cw : Nat) (hcw : cw ≤ 8 - c % 8) :
    (buf.getD (c / 8) 0 >>> (c % 8)) &&& (((1 <<< cw) - 1) % 256)
      = bitsOf buf / 2 ^ c % 2 ^ cw := by
  have h256 : (256 : Nat) = 2 ^ 8 := by decide
  rw [lowMask_eq (Nat.le_trans hcw (Nat.sub_le _ _)), Nat.and_two_pow_sub_one_eq_mod,
    Nat.shiftRight_eq_div_pow, getD_eq_div_mod h, h256,
    mod_div_mod (Nat.add_le_of_le_sub' (Nat.le_of_lt (Nat.mod_lt c (Nat.succ_pos _))) hcw), Nat.div_div_eq_div_mul]
  congr 2
  rw [Nat.mul_comm, ← two_pow_cursor]

/-- splitting bits `[c, c + iw)` at `c + cw` -/
theorem split_field (n c : Nat) {cw iw : Nat} (h : cw ≤ iw) :
    n / 2 ^ c % 2 ^ iw = n / 2 ^ c % 2 ^ cw + 2 ^ cw * (n / 2 ^ (c + cw) % 2 ^ (iw - cw)) := by
  rw [Nat.pow_add, ← Nat.div_div_eq_div_mul, ← Nat.mod_mul, ← Nat.pow_add, Nat.add_sub_cancel' h]

theorem readLoop_bits : ∀ (fuel tb : Nat) (buf : List Nat) (c item ic iw : Nat),
    BytesOk buf → iw ≤ fuel → ic + iw ≤ tb → item < 2 ^ ic →
    readLoop fuel tb buf c item ic iw = (item + (bitsOf buf / 2 ^ c % 2 ^ iw) * 2 ^ ic, c + iw)
  | fuel, tb, buf, c, item, ic, 0, _, _, _, _ => by
    rw [readLoop_done, Nat.pow_zero, Nat.mod_one, Nat.zero_mul]; rfl
  | fuel + 1, tb, buf, c, item, ic, iw + 1, hok, hf, htb, hitem => by
    obtain ⟨hcw1, hcw2, hcw3⟩ := chunkWidth_bounds c (Nat.succ_ne_zero iw)
    rw [readLoop_step _ _ _ _ _ _ (Nat.succ_ne_zero iw), byteChunk_eq hok c _ hcw3, split_field _ c hcw2]
    generalize min (8 - c % 8) (iw + 1) = cw at *
    obtain ⟨hf', hic⟩ := chunk_rest hcw1 hcw2 hf ic
    generalize hch : bitsOf buf / 2 ^ c % 2 ^ cw = ch
    have hchlt : ch < 2 ^ cw := by rw [← hch]; exact Nat.mod_lt _ (Nat.two_pow_pos _)
    have hnotrunc : (ch <<< ic) % 2 ^ tb = ch * 2 ^ ic := by
      rw [Nat.shiftLeft_eq]
      apply Nat.mod_eq_of_lt
      apply Nat.lt_of_lt_of_le (Nat.mul_lt_mul_of_pos_right hchlt (Nat.two_pow_pos _))
      rw [← Nat.pow_add, Nat.add_comm]
      exact Nat.pow_le_pow_right (by decide) (Nat.le_trans (Nat.add_le_add_left hcw2 ic) htb)
    rw [hnotrunc, or_chunk hitem,
      readLoop_bits fuel tb buf (c + cw) (item + ch * 2 ^ ic) (ic + cw) (iw + 1 - cw) hok hf' (hic ▸ htb)
        (add_shift_lt hitem hchlt)]
    congr 1
    · rw [Nat.add_mul, Nat.pow_add 2 ic, Nat.add_assoc, Nat.mul_comm (2 ^ cw), Nat.mul_assoc, Nat.mul_comm (2 ^ cw)]
    · exact (chunk_rest hcw1 hcw2 hf c).2

end BitStream
end FFSM2
