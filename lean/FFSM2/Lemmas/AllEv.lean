import FFSM2.Lemmas.Delivery
/-! "Every event of this trace satisfies P", given that P holds of the three kinds of events a step can emit under
    `env` (`EnvPred`): deliveries and actions keyed to `env.inst` / `env.op`, and log records of `env.inst`.  One lemma
    for a delivery, one for every trace that is `Made` of deliveries.  Used to attribute every event of an API call to
    the instance and the call that produced it (run-level theorems). -/
namespace FFSM2
open Step Ancestors

def AllEv (P : Ev → Prop) (f : Step) : Prop := ∀ s, ∀ e ∈ (f s).2, P e

/-- `P` holds of everything a step running under `env` can emit -/
structure EnvPred (env : Env) (P : Ev → Prop) : Prop where
  /-- every delivery event is emitted by `deliverLayer`: keyed to this instance and call, observing through `observe` -/
  cb : ∀ (m : Method) (sid occ : Nat) (layer : Layer) (cur pend : Tr) (c : Core),
    P (.cb ⟨env.inst, env.op, occ, m, sid, layer⟩ (observable env.cfg sid m layer) (observe env m.flavour sid cur pend c))
  act : ∀ (k : Key) a, k.inst = env.inst → k.op = env.op → P (.act k a)
  log : ∀ r, P (.log env.inst r)

theorem allEv_ite {P} {c : St → Prop} [DecidablePred c] {t e : Step} (ht : AllEv P t) (he : AllEv P e) :
    AllEv P (fun s => if c s then t s else e s) := by
  intro s x hx
  by_cases h : c s
  · simp only [h, if_true] at hx; exact ht s x hx
  · simp only [h, if_false] at hx; exact he s x hx

theorem allEv_deliver {P} {env : Env} (hP : EnvPred env P) (m : Method) (sid : Nat) (cur pend : Tr) :
    AllEv P (deliver env m sid cur pend) :=
  deliver_forall (hP.log _) (fun _ _ _ => hP.cb _ _ _ _ _ _ _) fun _ _ _ h => by
    cases h with
    | act a => exact hP.act _ a rfl rfl
    | log r _ => exact hP.log r

theorem Made.allEv {P} {env : Env} {A} (hP : EnvPred env P) {es : List Ev} (h : Made env A es) : ∀ e ∈ es, P e :=
  h.forall (fun m sid cur pend s _ => allEv_deliver hP m sid cur pend s) fun _ r _ => forall_mem_logEv (hP.log r)

end FFSM2
