import FFSM2.Lemmas.Delivery
import FFSM2.Lemmas.Ancestors
/-! Lifecycle signatures of the building blocks (`deliver`, `deepEnter`, `deepExit`, `changeToRequested`, `replayTransition`):
    where the registry lands and which `enter` / `exit` / `reenter` ran. -/
namespace FFSM2
open Step Ancestors

/-- `(method, state)` of an own-layer lifecycle delivery (visible or not) -/
def sigEv : Ev → Option (Method × Nat)
  | .cb k _ _ => if k.method.isLife && k.layer == Layer.own then some (k.method, k.sid) else none
  | _ => none

/-- the lifecycle signature of a trace: which state's enter/exit/reenter ran, in order -/
def sig (es : List Ev) : List (Method × Nat) := es.filterMap sigEv

@[simp] theorem sig_nil : sig [] = [] := rfl
@[simp] theorem sig_append (a b : List Ev) : sig (a ++ b) = sig a ++ sig b := by simp [sig]

theorem sigEv_isLife {e : Ev} {x : Method × Nat} (h : sigEv e = some x) : e.isLife = true := by
  cases e with
  | cb k vis o =>
    simp only [sigEv] at h
    split at h
    · rename_i hc; simp [Ev.isLife] ; simp at hc; exact hc.1
    · cases h
  | _ => simp [sigEv] at h

theorem sig_eq_nil_of_noLife {es : List Ev} (h : es.filter Ev.isLife = []) : sig es = [] :=
  List.filterMap_eq_nil_iff.mpr fun e he => by
    cases hs : sigEv e with
    | none => rfl
    | some x => exact absurd (sigEv_isLife hs) (List.filter_eq_nil_iff.mp h e he)

theorem sig_of_noLife {f : Step} (h : NoLife f) (s : St) : sig (f s).2 = [] := sig_eq_nil_of_noLife (h s)

theorem injections_no_own (k : Nat) : (injections k).filter (· == Layer.own) = [] := by
  simp [injections, List.filter_eq_nil_iff]

/-- whatever the translated call-order tables say, a delivery reaches the state's own callback exactly once -/
theorem deep_own_any (k : Nat) (m : Method) : (deep k m).filter (· == Layer.own) = [Layer.own] := by
  have hw : ∀ b : Bool, (if b then wideRev (injections k) else wideFwd (injections k)).filter (· == Layer.own) = [] := by
    intro b; cases b <;> simp [wideFwd_eq, wideRev_eq, injections_no_own, List.filter_reverse]
  unfold deep
  split
  · rfl
  · rfl
  · dsimp only
    split
    · exact congrArg (Layer.own :: ·) (hw _)
    · rw [List.filter_append, hw]; rfl

theorem deep_ne_nil (k : Nat) (m : Method) : deep k m ≠ [] := fun h => by
  have := deep_own_any k m
  rw [h] at this
  cases this

theorem sig_deliver (env : Env) (m : Method) (hm : m.isLife = true) (sid : Nat) (cur pend : Tr) (s : St) :
    sig (deliver env m sid cur pend s).2 = [(m, sid)] := by
  rw [sig, deliver_filterMap (φ := sigEv) (ψ := fun l => if m.isLife && l == Layer.own then some (m, sid) else none)
    (fun _ _ => rfl) (fun _ _ => rfl) (fun _ _ _ => rfl), filterMap_ite_const]
  simp only [hm, Bool.true_and]
  rw [deep_own_any]
  rfl

theorem deliver_core_active (env : Env) (m : Method) (sid : Nat) (cur pend : Tr) (s : St) :
    (deliver env m sid cur pend s).1.core.active = s.core.active ∧
    (deliver env m sid cur pend s).1.core.requested = s.core.requested := stable_deliver _ _ _ _ _ s

/-- where a step leaves the registry, and its lifecycle signature -/
def Lands (x : St × List Ev) (a r : Nat) (l : List (Method × Nat)) : Prop :=
  x.1.core.active = a ∧ x.1.core.requested = r ∧ sig x.2 = l

theorem Lands.seq {f g : Step} {s : St} {a r a' r' : Nat} {l l' : List (Method × Nat)} (hf : Lands (f s) a r l)
    (hg : ∀ t : St, t.core.active = a → t.core.requested = r → Lands (g t) a' r' l') : Lands ((f ⋙ g) s) a' r' (l ++ l') :=
  ⟨(hg _ hf.1 hf.2.1).1, (hg _ hf.1 hf.2.1).2.1, by rw [seq_snd, sig_append, hf.2.2, (hg _ hf.1 hf.2.1).2.2]⟩

section
variable (env : Env) {m : Method} (cur : Tr) {t : St} {a r : Nat}

theorem lands_deliver (hm : m.isLife = true) (ha : t.core.active = a) (hr : t.core.requested = r) (sid : Nat) :
    Lands (deliver env m sid cur {} t) a r [(m, sid)] :=
  ⟨(stable_deliver env m sid cur {} t).1.trans ha, (stable_deliver env m sid cur {} t).2.trans hr, sig_deliver env m hm sid cur {} t⟩

theorem lands_toActive (hm : m.isLife = true) (ha : t.core.active = a) (hr : t.core.requested = r) :
    Lands ((reading Core.active fun a => deliver env m a cur {}) t) a r [(m, a)] :=
  ha ▸ lands_deliver env cur hm rfl hr t.core.active

theorem lands_modifyCore {f : Core → Core} (ha : (f t.core).active = a) (hr : (f t.core).requested = r) :
    Lands (modifyCore f t) a r [] := ⟨ha, hr, rfl⟩

theorem lands_exitActive (ha : t.core.active = a) (hr : t.core.requested = r) : Lands (exitActive env cur t) a r [(.exit, a)] :=
  ha ▸ (lands_deliver env cur rfl rfl hr t.core.active).seq fun u hu hr =>
    lands_modifyCore (by rw [clearTaskStatus_eq]; exact hu) (by rw [clearTaskStatus_eq]; exact hr)

end

/-- `C_::deepChangeToRequested` -/
theorem changeToRequested_spec (env : Env) (cur : Tr) (s : St) :
    Lands (changeToRequested env cur s) s.core.requested 255
      (if s.core.requested != s.core.active then [(Method.exit, s.core.active), (Method.enter, s.core.requested)]
       else [(Method.reenter, s.core.active)]) := by
  rw [changeToRequested_eq]
  dsimp only
  split
  · exact ((lands_exitActive env cur rfl rfl).seq fun t _ hr => lands_modifyCore hr rfl).seq fun t ha hr =>
      lands_toActive env cur rfl ha hr
  · rename_i h
    rw [show s.core.requested = s.core.active by simpa using h]
    exact (lands_modifyCore rfl rfl).seq fun t ha hr => lands_toActive env cur rfl ha hr

/-- `C_::deepEnter` -/
theorem deepEnter_spec (env : Env) (cur : Tr) (s : St) :
    Lands (deepEnter env cur s) s.core.requested 255 [(Method.enter, 255), (Method.enter, s.core.requested)] := by
  rw [deepEnter_eq]
  exact ((lands_modifyCore rfl rfl).seq fun t ha hr => lands_deliver env cur rfl ha hr 255).seq fun t ha hr =>
    lands_toActive env cur rfl ha hr

/-- `C_::deepExit` -/
theorem deepExit_spec (env : Env) (cur : Tr) (s : St) :
    Lands (deepExit env cur s) 255 s.core.requested [(Method.exit, s.core.active), (Method.exit, 255)] := by
  rw [deepExit_eq]
  exact (((lands_exitActive env cur rfl rfl).seq fun t ha hr => lands_deliver env cur rfl ha hr 255).seq fun t _ hr =>
    lands_modifyCore rfl hr).seq fun t ha hr =>
    lands_modifyCore (f := fun c => if env.cfg.plans then planClearCore c else c) (by split <;> exact ha) (by split <;> exact hr)

/-- `replayTransition(d)`: a change to `d` with the request and the guards bypassed -/
theorem replayTransition_spec (env : Env) {d : Nat} (hd : d ≠ 255) (s : St) :
    Lands (replayTransition env d s) d 255
      (if d != s.core.active then [(Method.exit, s.core.active), (Method.enter, d)] else [(Method.reenter, s.core.active)]) := by
  unfold replayTransition Lands
  simp only [Step.seq, modifyCore, applyRequest_fresh hd, List.nil_append, List.append_nil]
  exact ⟨(changeToRequested_spec env {} _).1, trivial, (changeToRequested_spec env {} _).2.2⟩

end FFSM2
