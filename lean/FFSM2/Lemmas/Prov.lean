import FFSM2.Lemmas.Keeps
/-! Provenance of transitions (C07): every transition the machine holds or shows to user code — the
    outstanding request, the pending / current transition of a guard or lifecycle callback, the previous
    transition, every task of the plan — is, field for field (origin, destination, payload), one that somebody
    requested.  `M` is the set of requested transitions; a step keeps the invariant provided the requests its
    own callbacks make (its `act` events) are in `M`. -/
namespace FFSM2
open Step Ancestors

/-- the transition (or task, as the transition it becomes when it fires) a callback action requests -/
def Ev.made : Ev → Option Tr
  | .act k (.changeTo d) => some ⟨k.sid, d, none⟩
  | .act k (.changeWith d p) => some ⟨k.sid, d, some p⟩
  | .act _ (.planAppend o d p) => some ⟨o, d, p⟩
  | _ => none

/-- a present transition is a requested one -/
def TrOk (M : Tr → Prop) (t : Tr) : Prop := t.valid = true → M t

theorem trOk_default (M : Tr → Prop) : TrOk M {} := by intro h; simp [Tr.valid] at h
theorem trOk_clear (M : Tr → Prop) (t : Tr) : TrOk M t.clear := by intro h; simp [Tr.clear, Tr.valid] at h
theorem trOk_canon {M : Tr → Prop} {t : Tr} (h : TrOk M t) : TrOk M t.canon := by
  unfold Tr.canon; split
  · exact h
  · exact trOk_default M

structure Prov (M : Tr → Prop) (c : Core) : Prop where
  request : TrOk M c.request
  prev : TrOk M c.prev
  plan : ∀ t ∈ c.plan, M ⟨t.origin, t.dest, t.payload⟩

/-- what a callback can read is requested too -/
def ObsProv (M : Tr → Prop) (o : Obs) : Prop :=
  TrOk M o.request ∧ (∀ t, o.current = some t → TrOk M t) ∧ (∀ t, o.pending = some t → TrOk M t) ∧
  (∀ l, o.plan = some l → ∀ t ∈ l, M ⟨t.origin, t.dest, t.payload⟩)

def ActsIn (M : Tr → Prop) (es : List Ev) : Prop := ∀ e ∈ es, ∀ t, e.made = some t → M t
def ObsAll (M : Tr → Prop) (es : List Ev) : Prop := ∀ e ∈ es, ∀ k vis o, e = Ev.cb k vis o → ObsProv M o

theorem actsIn_append {M : Tr → Prop} {a b : List Ev} (h : ActsIn M (a ++ b)) : ActsIn M a ∧ ActsIn M b :=
  ⟨fun e he => h e (List.mem_append_left _ he), fun e he => h e (List.mem_append_right _ he)⟩

theorem obsAll_append {M : Tr → Prop} {a b : List Ev} (ha : ObsAll M a) (hb : ObsAll M b) : ObsAll M (a ++ b) := by
  intro e he
  rcases List.mem_append.mp he with h | h
  · exact ha e h
  · exact hb e h

theorem obsAll_nil (M : Tr → Prop) : ObsAll M [] := by intro e he; cases he

/-- provenance reads nothing but the request, the previous transition and the plan -/
theorem Prov.congr {M : Tr → Prop} {c c' : Core} (h : Prov M c) (e : (c'.request, c'.prev, c'.plan) = (c.request, c.prev, c.plan)) :
    Prov M c' := by
  injection e with e1 e; injection e with e2 e3
  exact ⟨e1 ▸ h.request, e2 ▸ h.prev, e3 ▸ h.plan⟩

theorem Prov.trs {M : Tr → Prop} {c : Core} (h : Prov M c) {q p : Tr} (hq : TrOk M q) (hp : TrOk M p) :
    Prov M { c with request := q, prev := p } :=
  ⟨hq, hp, h.plan⟩

theorem Prov.subPlan {M : Tr → Prop} {c c' : Core} (h : Prov M c) (e : (c'.request, c'.prev) = (c.request, c.prev))
    (hs : ∀ t ∈ c'.plan, t ∈ c.plan) : Prov M c' := by
  injection e with e1 e2
  exact ⟨e1 ▸ h.request, e2 ▸ h.prev, fun t ht => h.plan t (hs t ht)⟩

/-- the step from `s` to `s'` with trace `es` keeps provenance, and every observation in `es` is of requested
    transitions — given that what the callbacks request in `es` is in `M` -/
abbrev ProvJ (M : Tr → Prop) (s : St) (es : List Ev) (s' : St) : Prop :=
  ActsIn M es → Prov M s.core → Prov M s'.core ∧ ObsAll M es

abbrev KeepsM (M : Tr → Prop) (f : Step) : Prop := Sat (ProvJ M) f

theorem provJ_composes (M : Tr → Prop) : Composes (ProvJ M) :=
  ⟨fun _ _ h => ⟨h, obsAll_nil M⟩, fun h1 h2 ha hp =>
    have ⟨p1, o1⟩ := h1 (actsIn_append ha).1 hp
    have ⟨p2, o2⟩ := h2 (actsIn_append ha).2 p1
    ⟨p2, obsAll_append o1 o2⟩⟩

/-- a trace that holds no delivery: provenance is all there is to show -/
theorem provJ_noCb {M : Tr → Prop} {s s' : St} {es : List Ev} (hes : ∀ x ∈ es, x.isCb = false)
    (h : ActsIn M es → Prov M s.core → Prov M s'.core) : ProvJ M s es s' := fun ha hp =>
  ⟨h ha hp, fun x hx _ _ _ hk => by have := hes x hx; rw [hk] at this; cases this⟩

theorem provJ_silent {M : Tr → Prop} {s s' : St} (h : Prov M s.core → Prov M s'.core) : ProvJ M s [] s' :=
  provJ_noCb (fun _ hx => nomatch hx) fun _ => h

theorem KeepsM.seq {M} {f g : Step} (hf : KeepsM M f) (hg : KeepsM M g) : KeepsM M (f ⋙ g) := Sat.seq (provJ_composes M) hf hg
theorem keepsM_skip (M) : KeepsM M skip := sat_skip (provJ_composes M)
theorem keepsM_modifyCore {M} {m : Core → Core} (h : ∀ c, Prov M c → Prov M (m c)) : KeepsM M (modifyCore m) :=
  fun s => provJ_silent (h s.core)

/-- log records request nothing and are no observations -/
theorem logEv_noCb (env : Env) (c : Core) (r : LogRec) : ∀ x ∈ logEv env c r, x.isCb = false ∧ x.made = none :=
  forall_mem_logEv ⟨rfl, rfl⟩

/-- so it is with every trace that holds no delivery -/
theorem Made.noCb {env : Env} {es : List Ev} (h : Made env (fun _ _ _ _ => False) es) : ∀ x ∈ es, x.isCb = false ∧ x.made = none :=
  h.forall (fun _ _ _ _ _ f => f.elim) fun c r _ => logEv_noCb env c r

theorem applyAction_noCb (env : Env) (sid : Nat) (a : Action) (s : St) : ∀ x ∈ (applyAction env sid a s).2, x.isCb = false :=
  fun x hx => ((emits_applyAction sid a s).noCb x hx).1

theorem applyAction_made_none (env : Env) (sid : Nat) (a : Action) (s : St) : ∀ x ∈ (applyAction env sid a s).2, x.made = none :=
  fun x hx => ((emits_applyAction sid a s).noCb x hx).2

theorem obsProv_observe {M : Tr → Prop} (env : Env) (fl : Flavour) (sid : Nat) (cur pend : Tr) (c : Core)
    (hc : Prov M c) (hcur : TrOk M cur) (hpend : TrOk M pend) : ObsProv M (observe env fl sid cur pend c) := by
  refine ⟨trOk_canon hc.request, fun t ht => ?_, fun t ht => ?_, fun l ht => ?_⟩ <;> simp only [observe] at ht <;> split at ht <;>
    cases ht
  · exact trOk_canon hcur
  · exact trOk_canon hpend
  · exact hc.plan

/-- one permitted action whose request is in `M` -/
theorem prov_applyAction {M : Tr → Prop} (env : Env) (sid : Nat) (key : Key) (hk : key.sid = sid) (a : Action)
    (hM : ∀ t, (Ev.act key a).made = some t → M t) (s : St) (h : Prov M s.core) :
    Prov M (applyAction env sid a s).1.core := by
  subst hk
  cases a with
  | changeTo d => exact h.trs (fun _ => hM _ rfl) h.prev
  | changeWith d p => exact h.trs (fun _ => hM _ rfl) h.prev
  | planAppend o d p =>
    rw [applyAction_planAppend]
    refine ⟨h.request, h.prev, fun t ht => ?_⟩
    split at ht
    · exact (List.mem_append.mp ht).elim (h.plan t) fun e => by cases List.mem_singleton.mp e; exact hM _ rfl
    · exact h.plan t ht
  | planClear => exact h.subPlan rfl nofun
  | planRemove m => exact h.subPlan rfl fun _ ht => (removeMasked_sublist _ _).subset ht
  | _ => exact h.congr rfl

theorem keepsM_deliver {M : Tr → Prop} (env : Env) (m : Method) (sid : Nat) (cur pend : Tr)
    (hcur : TrOk M cur) (hpend : TrOk M pend) : KeepsM M (deliver env m sid cur pend) :=
  sat_deliver (provJ_composes M)
    (fun s => provJ_noCb (fun x hx => by
      split at hx
      · exact (logEv_noCb env _ _ x hx).1
      · cases hx) fun _ h => h)
    (fun _ s _ hp => ⟨hp, fun x hx _ _ _ hk => by
      cases List.mem_singleton.mp hx; cases hk; exact obsProv_observe env _ sid cur pend _ hp hcur hpend⟩)
    (fun _ _ a s _ _ => provJ_noCb (List.forall_mem_cons.mpr ⟨rfl, applyAction_noCb env sid a s⟩) fun ha =>
      prov_applyAction env sid _ rfl a (ha _ List.mem_cons_self) s)

theorem trOk_ite {M : Tr → Prop} {p : Prop} [Decidable p] {a b : Tr} (ha : TrOk M a) (hb : TrOk M b) : TrOk M (if p then a else b) := by
  split
  · exact ha
  · exact hb

theorem prov_wipe {M : Tr → Prop} {c : Core} (h : Prov M c) (cfg : Cfg) : Prov M (wipe cfg c) := by
  have h2 : Prov M (if cfg.plans then planDataClear c else c) := by
    split
    · exact h.subPlan rfl nofun
    · exact h
  unfold wipe
  dsimp only
  split
  · exact h2.trs h2.request (trOk_clear M _)
  · exact h2

section blocks
variable {M : Tr → Prop} (env : Env)

/-- a delivery outside the guards: no pending transition -/
theorem keepsM_life (m : Method) (sid : Nat) {cur : Tr} (hcur : TrOk M cur) : KeepsM M (deliver env m sid cur {}) :=
  keepsM_deliver env m sid cur {} hcur (trOk_default M)

theorem provJ_sees : Sees (fun s => (s.core.request, s.core.prev, s.core.plan)) (ProvJ M) where
  toComposes := provJ_composes M
  silent e := provJ_silent fun h => h.congr e

theorem prov_ignoresLife : IgnoresLife fun s : St => (s.core.request, s.core.prev, s.core.plan) := fun _ _ _ _ _ => rfl

theorem keepsM_deepEnter (cur : Tr) (hcur : TrOk M cur) : KeepsM M (deepEnter env cur) :=
  sees_deepEnter provJ_sees prov_ignoresLife fun m a _ => keepsM_life env m a hcur

theorem keepsM_changeToRequested (cur : Tr) (hcur : TrOk M cur) : KeepsM M (changeToRequested env cur) :=
  sees_changeToRequested provJ_sees prov_ignoresLife fun m a _ => keepsM_life env m a hcur

theorem keepsM_guardRound (cur pend : Tr) (hcur : TrOk M cur) (hpend : TrOk M pend) : KeepsM M (guardRound env cur pend) :=
  sees_guardRound provJ_sees (fun _ _ _ => rfl) fun m a _ => keepsM_deliver env m a cur pend hcur hpend

theorem keepsM_entryGuardRound (cur pend : Tr) (hcur : TrOk M cur) (hpend : TrOk M pend) : KeepsM M (entryGuardRound env cur pend) :=
  sees_entryGuardRound provJ_sees (fun _ _ _ => rfl) fun m a _ => keepsM_deliver env m a cur pend hcur hpend

/-- the substitution loop: provenance kept, the accepted transition is a requested one, every observation
    handed to a guard is of requested transitions -/
theorem keepsM_substLoop (round : Tr → Tr → Step) (hr : ∀ c p, TrOk M c → TrOk M p → KeepsM M (round c p)) :
    ∀ (fuel : Nat) (cur : Tr) (s : St), TrOk M cur → ActsIn M (substLoop round fuel cur s).2 → Prov M s.core →
      Prov M (substLoop round fuel cur s).1.1.core ∧ TrOk M (substLoop round fuel cur s).1.2 ∧ ObsAll M (substLoop round fuel cur s).2
  | 0, _, _ => fun hc _ h => ⟨h, hc, obsAll_nil M⟩
  | fuel + 1, cur, s => by
    intro hc
    rw [substLoop_succ]
    cases s.core.request.valid
    · exact fun _ h => ⟨h, hc, obsAll_nil M⟩
    cases cur.ne ⟨255, s.core.request.dest, none⟩
    · exact fun ha h => keepsM_substLoop round hr fuel cur _ hc ha (h.trs (trOk_clear M _) h.prev)
    · intro ha h
      have ⟨p1, o1⟩ := hr cur s.core.request hc h.request (takeRequest s) (actsIn_append ha).1
        ((h.trs (trOk_clear M s.core.request) h.prev).congr rfl)
      have ⟨p2, c2, o2⟩ := keepsM_substLoop round hr fuel _ _ (trOk_ite hc h.request) (actsIn_append ha).2 p1
      exact ⟨p2, c2, obsAll_append o1 o2⟩

theorem keepsM_substThen {round : Tr → Tr → Step} (hr : ∀ c p, TrOk M c → TrOk M p → KeepsM M (round c p)) (fuel : Nat)
    {k : Tr → Step} (hk : ∀ t, TrOk M t → KeepsM M (k t)) : KeepsM M (substThen round fuel k) := fun s ha h =>
  have ⟨p1, c1, o1⟩ := keepsM_substLoop round hr fuel {} s (trOk_default M) (actsIn_append ha).1 h
  have ⟨p2, o2⟩ := hk _ c1 _ (actsIn_append ha).2 p1
  ⟨p2, obsAll_append o1 o2⟩

theorem keepsM_applySurvivor (cur : Tr) (hcur : TrOk M cur) : KeepsM M (applySurvivor env cur) :=
  sees_applySurvivor provJ_sees prov_ignoresLife fun m a _ => keepsM_life env m a hcur

theorem keepsM_finishProcessing (cur : Tr) (hcur : TrOk M cur) : KeepsM M (finishProcessing env cur) :=
  keepsM_modifyCore fun _ h => (h.trs h.request (trOk_ite hcur h.prev)).congr rfl

theorem keepsM_processRequest : KeepsM M (processRequest env) := by
  rw [processRequest_eq]
  exact sat_ite _
    (keepsM_substThen (keepsM_guardRound env) _ fun t ht => KeepsM.seq (keepsM_applySurvivor env t ht) (keepsM_finishProcessing env t ht))
    (keepsM_finishProcessing env {} (trOk_default M))

theorem keepsM_enterSurvivor (cur : Tr) (hcur : TrOk M cur) : KeepsM M (enterSurvivor env cur) :=
  KeepsM.seq (KeepsM.seq (keepsM_modifyCore fun _ h => (h.trs h.request (trOk_ite hcur h.prev)).congr rfl) (keepsM_deepEnter env cur hcur))
    (keepsM_modifyCore fun _ h => h.congr rfl)

theorem keepsM_initialEnter : KeepsM M (initialEnter env) := by
  rw [initialEnter_eq]
  exact KeepsM.seq (KeepsM.seq (keepsM_modifyCore fun _ h => by rw [applyRequest_fst]; exact h.congr rfl)
      (keepsM_entryGuardRound env {} {} (trOk_default M) (trOk_default M)))
    (keepsM_substThen (keepsM_entryGuardRound env) _ (keepsM_enterSurvivor env))

theorem keepsM_finalExit : KeepsM M (finalExit env) :=
  sees_finalExit provJ_sees prov_ignoresLife
    (keepsM_modifyCore fun _ h => by
      split
      · exact h.subPlan rfl nofun
      · exact h)
    (keepsM_modifyCore fun _ h => (h.trs (trOk_clear M _) h.prev).congr rfl) (keepsM_modifyCore fun _ h => prov_wipe h _)
    fun m a _ => keepsM_life env m a (trOk_default M)

theorem keepsM_phase (m : Method) (hf : Bool) : KeepsM M (phase env m hf) :=
  sat_phase (provJ_composes M) (fun a => keepsM_life env m a (trOk_default M)) (fun _ => provJ_silent fun h => h.congr rfl)
    (fun _ => provJ_silent id) hf

theorem keepsM_planStep : KeepsM M (planStep env) := by
  have out : ∀ st m, KeepsM M (planOutcome env st m) := fun st m =>
    KeepsM.seq (KeepsM.seq (sat_modify fun _ => provJ_silent id) (keepsM_life env m 255 (trOk_default M))) (keepsM_modifyCore fun _ h => h.subPlan rfl nofun)
  -- the request `fireStep` leaves is a task of the plan, the tasks it keeps are tasks of the plan
  have fire : KeepsM M (fireStep env) := fun s => by
    obtain ⟨q, su, kept, e, hq, hk, _⟩ := fireStep_shape env s
    refine provJ_noCb (fun x hx => ((emits_firePlan s.core.plan s []).noCb x hx).1) fun _ h => ?_
    rw [e]
    exact (h.trs (hq.elim (fun e => e ▸ h.request) fun ⟨t, ht, e⟩ => e ▸ fun _ => h.plan t ht) h.prev).subPlan rfl fun _ ht => hk.subset ht
  exact sat_planStep (provJ_composes M) (out _ _) (out _ _) fire fun _ => provJ_silent fun h => h.congr rfl

theorem keepsM_cycle (pre mid post : Method) : KeepsM M (cycle env pre mid post) :=
  sat_cycle (provJ_composes M) (fun _ => provJ_silent id) (keepsM_phase env) (keepsM_planStep env) (keepsM_processRequest env) pre mid post

theorem keepsM_query : KeepsM M (query env) := sat_query (provJ_composes M) fun a => keepsM_life env _ a (trOk_default M)

theorem keepsM_extChange (d : Nat) (p : Option Nat) (hM : M ⟨255, d, p⟩) : KeepsM M (extChange env d p) := fun _ =>
  provJ_noCb (fun x hx => (logEv_noCb env _ _ x hx).1) fun _ h => h.trs (fun _ => hM) h.prev

theorem keepsM_extStatus (id : Nat) (ok : Bool) : KeepsM M (extStatus env id ok) := fun _ =>
  provJ_noCb (fun x hx => (logEv_noCb env _ _ x hx).1) fun _ h => by cases ok <;> exact h.congr rfl

/-- `applyRequest`, then the requested transition recorded as the previous one: the head of both replays -/
theorem keepsM_replayRecord (d : Nat) (hM : M ⟨255, d, none⟩) :
    KeepsM M (modifyCore fun c => { (applyRequest {} d c).1 with prev := ⟨255, d, none⟩ }) :=
  keepsM_modifyCore fun _ h => by rw [applyRequest_fst]; exact (h.trs h.request fun _ => hM).congr rfl

theorem keepsM_replayTransition (d : Nat) (hM : M ⟨255, d, none⟩) : KeepsM M (replayTransition env d) :=
  KeepsM.seq (KeepsM.seq (KeepsM.seq (keepsM_modifyCore fun _ h => h.trs h.request (trOk_clear M _)) (keepsM_replayRecord d hM))
    (keepsM_changeToRequested env {} (trOk_default M))) (keepsM_modifyCore fun _ h => h.congr rfl)

theorem keepsM_replayEnter (d : Nat) (hM : M ⟨255, d, none⟩) : KeepsM M (replayEnter env d) :=
  KeepsM.seq (KeepsM.seq (keepsM_replayRecord d hM) (keepsM_deepEnter env {} (trOk_default M))) (keepsM_modifyCore fun _ h => h.congr rfl)

theorem keepsM_load (buf : List Nat) : KeepsM M (load env buf) :=
  sees_load provJ_sees prov_ignoresLife (fun _ => keepsM_modifyCore fun _ h => (h.trs (trOk_clear M _) h.prev).congr rfl)
    (keepsM_modifyCore fun _ h => prov_wipe h _) (fun m a _ => keepsM_life env m a (trOk_default M)) (keepsM_finalExit env) buf

end blocks

end FFSM2
