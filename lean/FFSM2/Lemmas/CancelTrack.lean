import FFSM2.Lemmas.Processing
/-! The `_cancelled` flag of a guard round is exactly "some guard of this round called
    `cancelPendingTransition()`": ties the abstract veto flag of `substRounds` to the action events user code
    produces (C03 on the event level). -/
namespace FFSM2
open Step Ancestors

/-- a performed `cancelPendingTransition()` -/
def Ev.isCancel : Ev → Bool
  | .act _ .cancel => true
  | _ => false

def hasCancel (es : List Ev) : Bool := es.any Ev.isCancel

@[simp] theorem hasCancel_nil : hasCancel [] = false := rfl
theorem hasCancel_append (a b : List Ev) : hasCancel (a ++ b) = (hasCancel a || hasCancel b) := by
  simp [hasCancel, List.any_append]

/-- the step raises the flag exactly when one of its events is a performed cancellation -/
def Tracks (f : Step) : Prop := ∀ s, (f s).1.cancelled = (s.cancelled || hasCancel (f s).2)

theorem tracks_modifyCore (m : Core → Core) : Tracks (modifyCore m) := fun s => by simp [modifyCore]
theorem hasCancel_logEv (env : Env) (c : Core) (r : LogRec) : hasCancel (logEv env c r) = false := by
  unfold logEv; split <;> rfl

/-- the judgment `Tracks` is `Sat` of -/
abbrev Tracked (s : St) (es : List Ev) (s' : St) : Prop := s'.cancelled = (s.cancelled || hasCancel es)

theorem tracks_composes : Composes Tracked :=
  ⟨fun s => (Bool.or_false _).symm, fun {_ _ _ a b} h1 h2 => h2.trans (by rw [h1, hasCancel_append, Bool.or_assoc])⟩

/-- one action together with its `act` event -/
theorem tracked_action (env : Env) (sid : Nat) (key : Key) (a : Action) (s : St) :
    Tracked s (.act key a :: (applyAction env sid a s).2) (applyAction env sid a s).1 := by
  cases a with
  | cancel => exact (Bool.or_true _).symm
  | planAppend o d p => rw [applyAction_planAppend]; exact (Bool.or_false _).symm
  | planClear => exact (Bool.or_false _).symm
  | planRemove m => exact (Bool.or_false _).symm
  | _ => exact ((congrArg (s.cancelled || ·) (hasCancel_logEv env _ _)).trans (Bool.or_false _)).symm

theorem tracks_deliver (env : Env) (m : Method) (sid : Nat) (cur pend : Tr) : Tracks (deliver env m sid cur pend) :=
  sat_deliver tracks_composes
    (fun s => by
      split
      · exact ((congrArg (s.cancelled || ·) (hasCancel_logEv env _ _)).trans (Bool.or_false _)).symm
      · exact (Bool.or_false _).symm)
    (fun _ s => (Bool.or_false s.cancelled).symm)
    (fun _ _ a s _ _ => tracked_action env sid _ a s)

/-- a round: the control's registers are reset, then the guards run -/
theorem cancelled_of_reset {g h : Step} (hg : Sat Tracked g) (hh : Sat Tracked h) (s : St) :
    ((modify (fun s => { s with ts := .none, cancelled := false }) ⋙ g ⋙ h) s).1.cancelled =
      hasCancel ((modify (fun s => { s with ts := .none, cancelled := false }) ⋙ g ⋙ h) s).2 :=
  (Sat.seq tracks_composes hg hh _).trans (Bool.false_or _)

/-- **a round is vetoed iff one of its guards performed `cancelPendingTransition()`** -/
theorem guardRound_cancelled (env : Env) (cur pend : Tr) (s : St) :
    (guardRound env cur pend s).1.cancelled = hasCancel (guardRound env cur pend s).2 := by
  rw [guardRound_eq]
  exact cancelled_of_reset (sat_reading _ fun a => tracks_deliver env .exitGuard a cur pend)
    (sat_ite _ (sat_skip tracks_composes) (sat_reading _ fun a => tracks_deliver env .entryGuard a cur pend)) s

theorem entryGuardRound_cancelled (env : Env) (cur pend : Tr) (s : St) :
    (entryGuardRound env cur pend s).1.cancelled = hasCancel (entryGuardRound env cur pend s).2 := by
  rw [entryGuardRound_eq]
  exact cancelled_of_reset (tracks_deliver env .entryGuard 255 cur pend)
    (sat_ite _ (sat_skip tracks_composes) (sat_reading _ fun a => tracks_deliver env .entryGuard a cur pend)) s

/-- ghost: the events of each evaluated round of the loop, in order -/
def substRoundEvs (round : Tr → Tr → Step) : Nat → Tr → St → List (List Ev)
  | 0, _, _ => []
  | fuel + 1, current, s =>
    if s.core.request.valid then
      let ar := applyRequest current s.core.request.dest s.core
      if ar.2 then
        let pending := s.core.request
        let s1 := { s with core := { ar.1 with request := ar.1.request.clear } }
        let r := round current pending s1
        let current' := if r.1.cancelled then current else pending
        r.2 :: substRoundEvs round fuel current' r.1
      else
        substRoundEvs round fuel current { s with core := { s.core with request := s.core.request.clear } }
    else []

theorem substRoundEvs_succ (round : Tr → Tr → Step) (fuel : Nat) (cur : Tr) (s : St) :
    substRoundEvs round (fuel + 1) cur s =
      if s.core.request.valid then
        if cur.ne ⟨255, s.core.request.dest, none⟩ then
          (round cur s.core.request (takeRequest s)).2 ::
            substRoundEvs round fuel (if (round cur s.core.request (takeRequest s)).1.cancelled then cur else s.core.request)
              (round cur s.core.request (takeRequest s)).1
        else substRoundEvs round fuel cur (dropRequest s)
      else [] := by
  rw [substRoundEvs]
  unfold applyRequest
  cases cur.ne ⟨255, s.core.request.dest, none⟩ <;> rfl

/-- the loop's trace is the concatenation of its rounds' traces, and each round's veto flag is "a guard of that
    round cancelled" -/
theorem substLoop_rounds (round : Tr → Tr → Step) (hr : ∀ c p s, (round c p s).1.cancelled = hasCancel (round c p s).2) :
    ∀ (fuel : Nat) (cur : Tr) (s : St),
      (substLoop round fuel cur s).2 = (substRoundEvs round fuel cur s).flatten ∧
      (substRounds round fuel cur s).map (·.2) = (substRoundEvs round fuel cur s).map hasCancel
  | 0, _, _ => ⟨rfl, rfl⟩
  | fuel + 1, cur, s => by
    rw [substLoop_succ, substRounds_succ, substRoundEvs_succ]
    cases s.core.request.valid
    · exact ⟨rfl, rfl⟩
    cases cur.ne ⟨255, s.core.request.dest, none⟩
    · exact substLoop_rounds round hr fuel _ _
    · have ih := substLoop_rounds round hr fuel
        (if (round cur s.core.request (takeRequest s)).1.cancelled then cur else s.core.request) (round cur s.core.request (takeRequest s)).1
      refine ⟨congrArg (_ ++ ·) ih.1, ?_⟩
      simp only [↓reduceIte]
      rw [List.map_cons, List.map_cons, ih.2, hr]

end FFSM2
