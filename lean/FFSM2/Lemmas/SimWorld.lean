import FFSM2.Lemmas.Sim
import FFSM2.Lemmas.Effect
import FFSM2.Lemmas.World
/-!
# Views lifted from steps to API calls and whole histories

A view relates two effects when it relates their cores and bodies (`Effect.Sim`); related effects are realized as
related worlds and events; and for a call whose features both runs are compiled with alike (`Covers`), the two
runs decide on related effects (`effect_sim`).  Together: one call and then whole histories, for every view.
-/
namespace FFSM2
open Step

/-- the calls that exist only with PLANS -/
def Op.usesPlans : Op → Bool
  | .succeed .. | .fail .. | .planAppend .. | .planClear .. | .planRemove .. => true
  | _ => false

/-- the calls that exist only with TRANSITION_HISTORY -/
def Op.usesHistory : Op → Bool
  | .replayEnter .. | .replayTransition .. | .replayFrom .. | .replayEnterFrom .. => true
  | _ => false

/-- the calls that exist only with SERIALIZATION -/
def Op.usesSerialization : Op → Bool
  | .save .. | .load .. => true
  | _ => false

/-- the calls that use the log interface: attaching a logger, constructing with one -/
def Op.usesLogging : Op → Bool
  | .attachLogger .. => true
  | .construct _ lg => lg
  | _ => false

/-- an equation "the second result is the first seen through `ψ`", split, for an idempotent `ψ` -/
theorem split_image {α β : Type} {ψ : β → β} (idem : ∀ b, ψ (ψ b) = ψ b) {r : α × β} {a : α} {b : β} (h : r = (a, ψ b)) :
    r.1 = a ∧ ψ r.2 = ψ b :=
  ⟨congrArg Prod.fst h, (congrArg (fun r => ψ r.2) h).trans (idem _)⟩

/-- the world as the second run holds it -/
def World.image (κ : Core → Core) (w : World) : World := List.map (Option.map κ) w

theorem World.get_image (κ : Core → Core) (w : World) (i : Nat) : (w.image κ).get i = (w.get i).map κ := by
  unfold World.image World.get
  rw [List.getD_eq_getElem?_getD, List.getD_eq_getElem?_getD, List.getElem?_map]
  cases w[i]? <;> rfl

theorem World.put_image (κ : Core → Core) (w : World) (i : Nat) (c : Option Core) :
    (w.put i c).image κ = (w.image κ).put i (c.map κ) := by
  unfold World.image World.put
  rw [List.map_set, List.length_map]
  split
  · rfl
  · rw [List.map_append, List.map_replicate]; rfl

theorem World.image_id (κ : Core → Core) (h : ∀ c, κ c = c) (w : World) : w.image κ = w := by
  rw [show κ = id from funext h, World.image, Option.map_id, List.map_id]

/-- every machine that exists satisfies the view's invariant (between calls the control registers are at rest) -/
abbrev View.Holds (V : View) (w : World) : Prop := w.All fun c => V.I { core := c }

/-- the invariant survives the end of a call, when the control object goes away -/
theorem View.atRest (V : View) {s : St} (h : V.I s) : V.I { core := s.core } := V.frame _ _ (V.reset s h) rfl

inductive Effect.Sim (V : View) : Effect → Effect → Prop
  | reject : Effect.Sim V .reject .reject
  | run {c : Core} {f f' : Step} {ret ret' : Core → Option Bool} : V.I { core := c } → FFSM2.Sim V f f' →
      (∀ c, ret' (V.κ c) = ret c) → Effect.Sim V (.run c f ret) (.run (V.κ c) f' ret')
  | gone {c : Core} {f f' : Step} : V.I { core := c } → FFSM2.Sim V f f' → Effect.Sim V (.gone c f) (.gone (V.κ c) f')
  | peek (c : Core) (bytes : List Nat) : Effect.Sim V (.peek c bytes) (.peek (V.κ c) bytes)
  | put {c : Core} : V.I { core := c } → Effect.Sim V (.put c) (.put (V.κ c))

/-- what the view does to the two events a call itself emits, for instance ids `i` / `i'` -/
structure Boundary (V : View) (cfg cfg' : Cfg) (i i' : Nat) : Prop where
  api : ∀ k name c ret bytes,
    V.ψ [.api i k name (apiObs cfg c ret bytes)] = [.api i' k name (apiObs cfg' (V.κ c) ret bytes)]
  rejected : ∀ k name, V.ψ [.rejected i k name] = [.rejected i' k name]

section realize
variable {V : View} {cfg cfg' : Cfg} {i i' : Nat} (B : Boundary V cfg cfg' i i') {e e' : Effect} (h : Effect.Sim V e e')
include B h

theorem Effect.Sim.spec (k : Nat) (name : String) :
    e'.write = e.write.map (Option.map V.κ) ∧ e'.events cfg' i' k name = V.ψ (e.events cfg i k name) ∧
    ∀ c, e.write = some (some c) → V.I { core := c } := by
  cases h with
  | reject => exact ⟨rfl, (B.rejected k name).symm, fun _ hc => by cases hc⟩
  | @run c f f' ret ret' hc hf hret =>
    obtain ⟨f1, f2⟩ := hf _ hc
    have f1' : f' { core := V.κ c } = (V.φ (f { core := c }).1, V.ψ (f { core := c }).2) := f1
    simp only [Effect.write, Effect.events, V.ψ_append, B.api, f1']
    exact ⟨rfl, by rw [← hret]; rfl, fun c hc' => by cases hc'; exact V.atRest f2⟩
  | @gone c f f' hc hf =>
    obtain ⟨f1, _⟩ := hf _ hc
    have f1' : f' { core := V.κ c } = (V.φ (f { core := c }).1, V.ψ (f { core := c }).2) := f1
    simp only [Effect.write, Effect.events, V.ψ_append, B.api, f1']
    exact ⟨rfl, rfl, fun c hc' => by cases hc'⟩
  | peek c bytes => exact ⟨rfl, (B.api k name c none (some bytes)).symm, fun _ hc => by cases hc⟩
  | put hc => exact ⟨rfl, (B.api k name _ none none).symm, fun c hc' => by cases hc'; exact hc⟩

/-- related effects realized on the slots they belong to, in any two worlds -/
theorem Effect.Sim.slot (w w' : World) (k : Nat) (name : String) (hslot : w'.get i' = (w.get i).map V.κ) :
    (e'.realize cfg' w' i' k name).1.get i' = ((e.realize cfg w i k name).1.get i).map V.κ ∧
    (e'.realize cfg' w' i' k name).2 = V.ψ (e.realize cfg w i k name).2 := by
  obtain ⟨s1, s2, _⟩ := h.spec B k name
  refine ⟨?_, s2⟩
  simp only [Effect.realize, s1]
  cases e.write
  · exact hslot
  · simp only [Option.map_some, World.get_put_same]

end realize

/-- related effects realized in the world as the second run holds it -/
theorem Effect.Sim.world {V : View} {cfg cfg' : Cfg} {i : Nat} (B : Boundary V cfg cfg' i i) {e e' : Effect}
    (h : Effect.Sim V e e') {w : World} (hw : V.Holds w) (k : Nat) (name : String) :
    e'.realize cfg' (w.image V.κ) i k name = ((e.realize cfg w i k name).1.image V.κ, V.ψ (e.realize cfg w i k name).2) ∧
    V.Holds (e.realize cfg w i k name).1 := by
  obtain ⟨s1, s2, s3⟩ := h.spec B k name
  simp only [Effect.realize, s1, s2]
  cases hwr : e.write with
  | none => exact ⟨rfl, hw⟩
  | some x => exact ⟨by simp only [Option.map_some, World.put_image], hw.put i fun c hc => s3 c (by rw [hwr, hc])⟩

/-- The call is one the view covers: each feature it uses is compiled alike in both runs and is not what the view
    erases.  (A call that uses none of the features is covered by every view.) -/
structure Covers (V : View) (cfg cfg' : Cfg) (op : Op) : Prop where
  plans : op.usesPlans = true → cfg'.plans = cfg.plans ∧ V.Agnostic
  history : op.usesHistory = true → cfg'.history = cfg.history ∧ ∀ t, V.π t = t
  serialization : op.usesSerialization = true → cfg'.serialization = cfg.serialization
  construct : ∀ i lg, op = .construct i lg →
    initCore cfg' (lg && cfg'.logging) = V.κ (initCore cfg (lg && cfg.logging)) ∧
    V.I { core := initCore cfg (lg && cfg.logging) }
  attach : ∀ i on, op = .attachLogger i on →
    cfg'.logging = cfg.logging ∧ V.ℓ on = on ∧ ∀ s, V.I s → V.I { s with core := { s.core with logger := on } }

/-- the replica calls are covered as the replay calls they resolve to -/
theorem Covers.replay {V : View} {cfg cfg' : Cfg} {op : Op} (h : Covers V cfg cfg' op) (hu : op.usesHistory = true)
    {op' : Op} (h1 : op'.usesPlans = false) (h2 : op'.usesSerialization = false)
    (h3 : ∀ i lg, op' ≠ .construct i lg) (h4 : ∀ i on, op' ≠ .attachLogger i on) : Covers V cfg cfg' op' where
  plans e := by rw [h1] at e; cases e
  history _ := h.history hu
  serialization e := by rw [h2] at e; cases e
  construct i lg e := absurd e (h3 i lg)
  attach i on e := absurd e (h4 i on)

theorem Effect.Sim.ite {V : View} {g g' : Bool} {a a' b b' : Effect} (hg : g' = g) (ha : Effect.Sim V a a')
    (hb : Effect.Sim V b b') : Effect.Sim V (if g then a else b) (if g' then a' else b') := by
  subst hg
  cases g'
  · exact hb
  · exact ha

theorem Effect.Sim.guarded {V : View} {g g' : Bool} {c : Core} {f f' : Step} {ret ret' : Core → Option Bool}
    (hg : g' = g) (hc : V.I { core := c }) (hf : FFSM2.Sim V f f') (hret : ∀ c, ret' (V.κ c) = ret c) :
    Effect.Sim V (.guarded g c f ret) (.guarded g' (V.κ c) f' ret') :=
  .ite hg (.run hc hf hret) .reject

section effect
variable {V : View} {env env' : Env} (L : Leaves V env env')
  (hplan : Sim V (if env.cfg.plans then planStep env else skip) (if env'.cfg.plans then planStep env' else skip))
include L hplan

/-- `step`'s decision, for the core the slot holds and its image -/
theorem effect_sim (w w' : World) (op : Op) (hcov : Covers V env.cfg env'.cfg op)
    (hsrc : ∀ i src, op = .load i src → w'.get src = (w.get src).map V.κ)
    (slot : Option Core) (hI : ∀ c, slot = some c → V.I { core := c }) :
    Effect.Sim V (effect env w op slot) (effect env' w' op (slot.map V.κ)) := by
  have hsave : ∀ c, save env'.cfg (V.κ c) = save env.cfg c := fun _ => by rw [L.cfg]; rfl
  cases slot with
  | none =>
    cases op with
    | construct i lg =>
      obtain ⟨h1, h2⟩ := hcov.construct i lg rfl
      exact .ite L.manual (h1 ▸ .run h2 sim_skip fun _ => rfl) (h1 ▸ .run h2 (sim_initialEnter L) fun _ => rfl)
    | _ => exact .reject
  | some c =>
    have hc := hI c rfl
    cases op with
    | construct i lg | copy i src | replayFrom i src | replayEnterFrom i src => exact .reject
    | destroy i => exact .ite L.manual (.gone hc sim_skip) (.gone hc (sim_finalExit L))
    | enter i => exact .guarded (by rw [L.manual]; rfl) hc (sim_initialEnter L) fun _ => rfl
    | exit i => exact .guarded (by rw [L.manual]; rfl) hc (sim_finalExit L) fun _ => rfl
    | update i | react i => exact .guarded rfl hc (sim_cycle L hplan _ _ _) fun _ => rfl
    | query i => exact .guarded rfl hc (sim_query L) fun _ => rfl
    | changeTo i d => exact .guarded (by rw [L.idOk]; rfl) hc (sim_extChange L d none) fun _ => rfl
    | changeWith i d p =>
      exact .guarded (by rw [L.idOk, L.hasPayload]; rfl) hc (sim_extChange L d (some p)) fun _ => rfl
    | immediateChangeTo i d =>
      exact .guarded (by rw [L.idOk]; rfl) hc (Sim.seq (sim_extChange L d none) (sim_processRequest L)) fun _ => rfl
    | immediateChangeWith i d p =>
      exact .guarded (by rw [L.idOk, L.hasPayload]; rfl) hc
        (Sim.seq (sim_extChange L d (some p)) (sim_processRequest L)) fun _ => rfl
    | succeed i id | fail i id =>
      obtain ⟨hp, hag⟩ := hcov.plans rfl
      exact .guarded (by rw [L.idOk, hp]) hc (sim_extStatus hag L.log id _) fun _ => rfl
    | planAppend i o d p =>
      obtain ⟨hp, hag⟩ := hcov.plans rfl
      exact .guarded (by simp only [permitted, L.idOk, L.hasPayload, hp]) hc (sim_applyAction 255 _ (fun _ => hag) L.log L.cap)
        fun _ => rfl
    | planClear i | planRemove i mask =>
      obtain ⟨hp, hag⟩ := hcov.plans rfl
      exact .guarded hp hc (sim_applyAction 255 _ (fun _ => hag) L.log L.cap) fun _ => rfl
    | save i =>
      exact .ite (by rw [hcov.serialization rfl, L.manual]; rfl) (hsave c ▸ .peek c _) .reject
    | load i src =>
      simp only [effect, Option.map_some, hsrc i src rfl]
      cases w.get src with
      | none => exact .reject
      | some sc =>
        simp only [Option.map_some, hsave]
        exact .guarded (by rw [hcov.serialization rfl, L.manual]; rfl) hc (sim_load L _) fun _ => rfl
    | replayEnter i d =>
      obtain ⟨hh, hπ⟩ := hcov.history rfl
      exact .guarded (by rw [L.idOk, L.manual, hh]; simp only [View.κ, hπ]) hc (sim_replayEnter L hπ d) fun _ => rfl
    | replayTransition i d =>
      obtain ⟨hh, hπ⟩ := hcov.history rfl
      exact .ite (by rw [L.idOk, hh]; rfl)
        (.ite rfl (.run hc (sim_modifyCore (fun c => by simp only [View.κ, hπ]) fun s hs => V.frame s _ hs rfl) fun _ => rfl)
          (.run hc (sim_replayTransition L hπ d) fun _ => rfl)) .reject
    | attachLogger i on =>
      obtain ⟨hl, hon, hi⟩ := hcov.attach i on rfl
      exact .guarded hl hc (sim_modifyCore (fun c => by simp only [View.κ, hon]) hi) fun _ => rfl

/-- `stepAll`'s decision, in the world as the second run holds it -/
theorem effectAll_sim {w : World} (hw : V.Holds w) (op : Op) (hcov : Covers V env.cfg env'.cfg op) :
    Effect.Sim V (effectAll env w op) (effectAll env' (w.image V.κ) op) := by
  have h : Effect.Sim V (effect env w op (w.get op.inst)) (effect env' (w.image V.κ) op ((w.image V.κ).get op.inst)) := by
    rw [World.get_image]; exact effect_sim L hplan w _ _ hcov (fun _ src _ => World.get_image ..) _ (hw _)
  cases op with
  | copy i src =>
    simp only [effectAll, World.get_image]
    cases hi : w.get i <;> cases hs : w.get src <;> first | exact .reject | exact .put (hw _ _ hs)
  | replayFrom i src | replayEnterFrom i src =>
    obtain ⟨hh, hπ⟩ := hcov.history rfl
    simp only [effectAll, World.get_image]
    cases w.get src with
    | none => exact .reject
    | some sc =>
      simp only [Option.map_some, hh, View.κ, hπ]
      exact effect_sim L hplan w _ _
        (hcov.replay rfl rfl rfl (fun _ _ e => by cases e) fun _ _ e => by cases e) (fun _ src _ => World.get_image ..) _ (hw _)
  | _ => exact h

end effect

/-- what a view needs to know about two builds `cfg` / `cfg'` running user code `beh` / `beh'`, instance by instance -/
structure Lifts (V : View) (cfg cfg' : Cfg) (beh beh' : Beh) : Prop where
  leaves : ∀ i k, Leaves V ⟨cfg, beh, i, k⟩ ⟨cfg', beh', i, k⟩
  planStep : ∀ i k, Sim V (if cfg.plans then planStep ⟨cfg, beh, i, k⟩ else skip) (if cfg'.plans then FFSM2.planStep ⟨cfg', beh', i, k⟩ else skip)
  boundary : ∀ i, Boundary V cfg cfg' i i

/-- for a view whose invariant ignores the plan data the plan step needs nothing of its own -/
theorem lifts_of_agnostic {V : View} {cfg cfg' : Cfg} {beh beh' : Beh} (hag : V.Agnostic) (plans : cfg'.plans = cfg.plans)
    (leaves : ∀ i k, Leaves V ⟨cfg, beh, i, k⟩ ⟨cfg', beh', i, k⟩) (boundary : ∀ i, Boundary V cfg cfg' i i) :
    Lifts V cfg cfg' beh beh' where
  leaves := leaves
  planStep i k := sim_planStep hag (leaves i k) plans
  boundary := boundary

/-- A history run a second time, the calls of the second run being `ω` of the first's: if at every call the two runs
    decide on related effects, the whole second run is the first seen through the view. -/
theorem runFrom_sim_of {V : View} {cfg cfg' : Cfg} {beh beh' : Beh} (B : ∀ i, Boundary V cfg cfg' i i) (ω : Op → Op)
    (hinst : ∀ op, (ω op).inst = op.inst) (hname : ∀ op, (ω op).name = op.name) :
    ∀ (ops : List Op) (w : World) (k : Nat), V.Holds w →
      (∀ op ∈ ops, ∀ w k, V.Holds w →
        Effect.Sim V (effectAll ⟨cfg, beh, op.inst, k⟩ w op) (effectAll ⟨cfg', beh', op.inst, k⟩ (w.image V.κ) (ω op))) →
      runFrom cfg' beh' (w.image V.κ) k (ops.map ω) =
        ((runFrom cfg beh w k ops).1.image V.κ, V.ψ (runFrom cfg beh w k ops).2) ∧
      V.Holds (runFrom cfg beh w k ops).1
  | [], _, _, hw, _ => ⟨by simp only [List.map_nil, runFrom, V.ψ_nil], hw⟩
  | op :: ops, w, k, hw, h => by
    obtain ⟨s1, s2⟩ := (h op (by simp) w k hw).world (B op.inst) hw k op.name
    rw [← stepAll_eq] at s1 s2
    obtain ⟨i1, i2⟩ := runFrom_sim_of B ω hinst hname ops _ (k + 1) s2 fun o ho => h o (by simp [ho])
    refine ⟨?_, i2⟩
    simp only [List.map_cons, runFrom, stepAll_eq cfg' beh', hinst, hname, s1, i1, V.ψ_append]

section lifts
variable {V : View} {cfg cfg' : Cfg} {beh beh' : Beh} (W : Lifts V cfg cfg' beh beh')
include W

/-- **one call** of the second run, on the world as it holds it, is the call of the first seen through the view -/
theorem step_sim {w : World} (hw : V.Holds w) (k : Nat) (op : Op) (hcov : Covers V cfg cfg' op) :
    step cfg' beh' (w.image V.κ) k op = ((step cfg beh w k op).1.image V.κ, V.ψ (step cfg beh w k op).2) ∧
    V.Holds (step cfg beh w k op).1 := by
  rw [step_eq, step_eq, World.get_image]
  exact (effect_sim (W.leaves _ _) (W.planStep _ _) w _ op hcov (fun _ _ _ => World.get_image ..) _ (hw _)).world
    (W.boundary _) hw k _

theorem stepAll_sim {w : World} (hw : V.Holds w) (k : Nat) (op : Op) (hcov : Covers V cfg cfg' op) :
    stepAll cfg' beh' (w.image V.κ) k op = ((stepAll cfg beh w k op).1.image V.κ, V.ψ (stepAll cfg beh w k op).2) ∧
    V.Holds (stepAll cfg beh w k op).1 := by
  rw [stepAll_eq, stepAll_eq]
  exact (effectAll_sim (W.leaves _ _) (W.planStep _ _) hw op hcov).world (W.boundary _) hw k _

/-- **whole histories** of covered calls -/
theorem runFrom_sim (ops : List Op) {w : World} (k : Nat) (hw : V.Holds w) (hcov : ∀ op ∈ ops, Covers V cfg cfg' op) :
    runFrom cfg' beh' (w.image V.κ) k ops = ((runFrom cfg beh w k ops).1.image V.κ, V.ψ (runFrom cfg beh w k ops).2) ∧
    V.Holds (runFrom cfg beh w k ops).1 := by
  have h := runFrom_sim_of W.boundary id (fun _ => rfl) (fun _ => rfl) ops w k hw fun op ho w k hw =>
    effectAll_sim (W.leaves _ _) (W.planStep _ _) hw op (hcov op ho)
  rwa [List.map_id] at h

end lifts
end FFSM2
