import FFSM2.Lemmas.OwnSig
import FFSM2.Lemmas.Processing
import FFSM2.Lemmas.World
/-! Counting guard evaluations on the *event* level: how many times the own `exitGuard` / `entryGuard` of
    any state is delivered within one API call.  Ties the ghost rounds of `substRounds` (C04) to what user
    code can observe, and bounds every call of every history. -/
namespace FFSM2
open Step Ancestors

/-- own-layer guard deliveries, in order -/
def guardSig (es : List Ev) : List (Method × Nat) := (ownSig es).filter (fun x => x.1.isGuard)

@[simp] theorem guardSig_nil : guardSig [] = [] := rfl
@[simp] theorem guardSig_append (a b : List Ev) : guardSig (a ++ b) = guardSig a ++ guardSig b := by
  simp [guardSig, List.filter_append]

theorem guardSig_of_noGuard {es : List Ev} (h : es.filter Ev.isGuard = []) : guardSig es = [] :=
  List.filter_eq_nil_iff.mpr (ownSig_method fun _ _ _ => List.filter_eq_nil_iff.mp h _)

theorem guardSig_step_of_noGuard {f : Step} (h : NoGuard f) (s : St) : guardSig (f s).2 = [] := guardSig_of_noGuard (h s)

theorem guardSig_deliver (env : Env) (m : Method) (hm : m.isGuard = true) (sid : Nat) (cur pend : Tr) (s : St) :
    guardSig (deliver env m sid cur pend s).2 = [(m, sid)] := by
  simp [guardSig, ownSig_deliver, hm]

def countM (m : Method) (l : List (Method × Nat)) : Nat := l.countP (fun x => x.1 == m)

theorem countM_append (m : Method) (a b : List (Method × Nat)) : countM m (a ++ b) = countM m a + countM m b := by
  simp [countM, List.countP_append]

/-- the step delivers exactly `a` exit guards and at most `b` entry guards -/
def GuardCounts (a b : Nat) (f : Step) : Prop :=
  ∀ s, countM .exitGuard (guardSig (f s).2) = a ∧ countM .entryGuard (guardSig (f s).2) ≤ b

theorem GuardCounts.seq {a b a' b' : Nat} {f g : Step} (hf : GuardCounts a b f) (hg : GuardCounts a' b' g) :
    GuardCounts (a + a') (b + b') (f ⋙ g) := fun s => by
  rw [seq_snd, guardSig_append, countM_append, countM_append, (hf s).1, (hg _).1]
  exact ⟨rfl, Nat.add_le_add (hf s).2 (hg _).2⟩

theorem guardCounts_exitGuard (env : Env) (sid : Nat) (cur pend : Tr) : GuardCounts 1 0 (deliver env .exitGuard sid cur pend) :=
  fun s => by rw [guardSig_deliver env _ rfl]; exact ⟨rfl, Nat.le_refl _⟩

theorem guardCounts_entryGuard (env : Env) (sid : Nat) (cur pend : Tr) : GuardCounts 0 1 (deliver env .entryGuard sid cur pend) :=
  fun s => by rw [guardSig_deliver env _ rfl]; exact ⟨rfl, Nat.le_refl _⟩

/-- the second half of a round: the requested state's entry guard, unless the first half cancelled -/
theorem guardCounts_unlessCancelled (env : Env) (cur pend : Tr) : GuardCounts 0 1 fun s =>
    if s.cancelled then skip s else (reading Core.requested fun a => deliver env .entryGuard a cur pend) s := fun s => by
  dsimp only
  split
  · exact ⟨rfl, Nat.zero_le _⟩
  · exact guardCounts_entryGuard env _ cur pend s

/-- one guard round: exactly one `exitGuard` (of the active state), at most one `entryGuard` -/
theorem guardRound_counts (env : Env) (cur pend : Tr) : GuardCounts 1 1 (guardRound env cur pend) := by
  rw [guardRound_eq]
  exact (GuardCounts.seq (a := 0) (b := 0) (fun _ => ⟨rfl, Nat.le_refl _⟩) fun s => guardCounts_exitGuard env _ cur pend s).seq
    (guardCounts_unlessCancelled env cur pend)

/-- one activation round: no `exitGuard`, the root's `entryGuard` and at most one state's -/
theorem entryGuardRound_counts (env : Env) (cur pend : Tr) : GuardCounts 0 2 (entryGuardRound env cur pend) := by
  rw [entryGuardRound_eq]
  exact (GuardCounts.seq (a := 0) (b := 0) (fun _ => ⟨rfl, Nat.le_refl _⟩) (guardCounts_entryGuard env 255 cur pend)).seq
    (guardCounts_unlessCancelled env cur pend)

/-- the substitution loop: if every round delivers `a` exit guards and at most `b` entry guards, the loop
    delivers `a` / at most `b` per evaluated round -/
theorem substLoop_guard_counts (round : Tr → Tr → Step) (a b : Nat) (P : ∀ c p, GuardCounts a b (round c p)) :
    ∀ (fuel : Nat) (cur : Tr) (s : St),
    countM .exitGuard (guardSig (substLoop round fuel cur s).2) = a * (substRounds round fuel cur s).length ∧
    countM .entryGuard (guardSig (substLoop round fuel cur s).2) ≤ b * (substRounds round fuel cur s).length
  | 0, _, _ => ⟨(Nat.mul_zero a).symm, Nat.zero_le _⟩
  | fuel + 1, cur, s => by
    rw [substLoop_succ, substRounds_succ]
    cases s.core.request.valid
    · exact ⟨(Nat.mul_zero a).symm, Nat.zero_le _⟩
    cases cur.ne ⟨255, s.core.request.dest, none⟩
    · exact substLoop_guard_counts round a b P fuel _ _
    · have ih := substLoop_guard_counts round a b P fuel
        (if (round cur s.core.request (takeRequest s)).1.cancelled then cur else s.core.request) (round cur s.core.request (takeRequest s)).1
      simp only [↓reduceIte]
      rw [guardSig_append, countM_append, countM_append, List.length_cons, Nat.mul_add, Nat.mul_add, Nat.mul_one, Nat.mul_one,
        (P _ _ _).1, ih.1]
      exact ⟨Nat.add_comm _ _, Nat.le_trans (Nat.add_le_add (P _ _ _).2 ih.2) (Nat.le_of_eq (Nat.add_comm _ _))⟩

end FFSM2
