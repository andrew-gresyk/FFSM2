import FFSM2.Lemmas.SimWorld
/-!
# Serialization-blindness: compiling SERIALIZATION out changes nothing for a program that never calls `save()` / `load()`

No step of the model mentions the switch; only the guards of the `save` / `load` calls do.
-/
namespace FFSM2
open Step Ancestors

def cfgS (cfg : Cfg) : Cfg := { cfg with serialization := false }
def envS (env : Env) : Env := { env with cfg := cfgS env.cfg }

theorem envS_mk (cfg : Cfg) (beh : Beh) (i k : Nat) : (⟨cfgS cfg, beh, i, k⟩ : Env) = envS ⟨cfg, beh, i, k⟩ := rfl
theorem onCore_S (cfg : Cfg) (w : World) (i k : Nat) (name : String) (c : Core) (f : Step) (ret : Core → Option Bool) :
    onCore (cfgS cfg) w i k name c f ret = onCore cfg w i k name c f ret := rfl
theorem finishProcessing_S (env : Env) (cur : Tr) : finishProcessing (envS env) cur = finishProcessing env cur := rfl
theorem extChange_S (env : Env) (d : Nat) (p : Option Nat) : extChange (envS env) d p = extChange env d p := rfl
theorem extStatus_S (env : Env) (id : Nat) (ok : Bool) : extStatus (envS env) id ok = extStatus env id ok := rfl

/-- the second run is the first: same state, same events -/
def sameView : View := .free id id id rfl fun _ _ => rfl

theorem sameView_κ (c : Core) : sameView.κ c = c := rfl

theorem sameView_agnostic : sameView.Agnostic := View.free_agnostic _ _

theorem serial_lifts (cfg : Cfg) (beh : Beh) : Lifts sameView cfg (cfgS cfg) beh beh :=
  lifts_of_agnostic sameView_agnostic rfl
    (fun _ _ => leaves_of_agnostic sameView_agnostic
      { cfg := rfl, beh := fun _ _ _ _ => rfl, cbEv := fun _ _ _ _ _ _ _ _ => rfl, actEv := fun _ _ _ _ _ => rfl, log := fun _ _ _ => rfl,
        methodLog := methodLog_of_log rfl rfl fun _ _ _ => rfl, record := fun _ _ => rfl }
      -- with `sameView.κ` left in, `rfl` compares the two cores field by field
      rfl fun c => by rw [sameView_κ, sameView_κ]; rfl)
    fun _ => ⟨fun _ _ _ _ _ => rfl, fun _ _ => rfl⟩

/-- every call but `save()` / `load()` is covered -/
theorem serial_covers (cfg : Cfg) {op : Op} (hop : op.usesSerialization = false) : Covers sameView cfg (cfgS cfg) op where
  plans _ := ⟨rfl, sameView_agnostic⟩
  history _ := ⟨rfl, fun _ => rfl⟩
  serialization e := by rw [hop] at e; cases e
  construct _ _ _ := ⟨rfl, trivial⟩
  attach _ _ _ := ⟨rfl, rfl, fun _ _ => trivial⟩

/-- **one call with SERIALIZATION compiled out is the same call** (every call but `save()` / `load()`) -/
theorem step_S (cfg : Cfg) (beh : Beh) (w : World) (k : Nat) (op : Op) (hop : op.usesSerialization = false) :
    step (cfgS cfg) beh w k op = step cfg beh w k op := by
  have h := (step_sim (serial_lifts cfg beh) (w := w) (fun _ _ _ => trivial) k op (serial_covers cfg hop)).1
  simp only [World.image_id sameView.κ sameView_κ] at h
  exact h

theorem runFrom_S (cfg : Cfg) (beh : Beh) : ∀ (ops : List Op) (w : World) (k : Nat), (∀ op ∈ ops, op.usesSerialization = false) →
    runFrom (cfgS cfg) beh w k ops = runFrom cfg beh w k ops := fun ops w k hops => by
  have h := (runFrom_sim (serial_lifts cfg beh) ops (w := w) k (fun _ _ _ => trivial) fun op ho => serial_covers cfg (hops op ho)).1
  simp only [World.image_id sameView.κ sameView_κ] at h
  exact h

end FFSM2
