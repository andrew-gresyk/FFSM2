/-! List facts shared across the development: `getD` / `set` (array cells of the containers), and folds (`foldl_fixed`,
    `foldl_sim`, `foldl_ok`: the automata over traces and the refinement of operation sequences). -/
namespace FFSM2

theorem getD_set {α : Type} (l : List α) (k j : Nat) (x d : α) :
    (l.set k x).getD j d = if k = j ∧ k < l.length then x else l.getD j d := by
  simp only [List.getD_eq_getElem?_getD, List.getElem?_set]
  by_cases h : k = j
  · subst h; by_cases h2 : k < l.length <;> simp [h2]
  · simp [h]

theorem getD_set_ne {α : Type} (l : List α) {k j : Nat} (x d : α) (h : k ≠ j) :
    (l.set k x).getD j d = l.getD j d := by
  rw [getD_set, if_neg (fun e => h e.1)]

theorem getD_set_self {α : Type} (l : List α) {k : Nat} (x d : α) (h : k < l.length) :
    (l.set k x).getD k d = x := by
  rw [getD_set, if_pos ⟨rfl, h⟩]

theorem getD_map_const {α β : Type} (l : List α) (c d : β) (k : Nat) :
    (l.map (fun _ => c)).getD k d = if k < l.length then c else d := by
  rw [List.getD_eq_getElem?_getD, List.getElem?_map]
  by_cases h : k < l.length <;> simp [h]

theorem getD_replicate {α : Type} (n k : Nat) (c : α) : (List.replicate n c).getD k c = c := by
  rw [List.getD_eq_getElem?_getD, List.getElem?_replicate]; split <;> rfl

/-- a store keeps a property that all cells and the stored value have -/
theorem forall_mem_set {α : Type} {P : α → Prop} {l : List α} {k : Nat} {x : α} (h : ∀ b ∈ l, P b) (hx : P x) :
    ∀ b ∈ l.set k x, P b := by
  intro b hb
  rcases List.mem_or_eq_of_mem_set hb with hb | hb
  · exact h b hb
  · exact hb ▸ hx

theorem ite_prod {α β : Type} (c : Prop) [Decidable c] (a a' : α) (b b' : β) :
    (if c then (a, b) else (a', b')) = (if c then a else a', if c then b else b') := by
  split <;> rfl

theorem ite_set_eq {α : Type} {l : List α} {cap : Nat} (h : l.length = cap) (k : Nat) (v : α) :
    (if k < cap then l.set k v else l) = l.set k v := by
  split
  · rfl
  · exact (List.set_eq_of_length_le (by omega)).symm

theorem getLast?_getD_cons {α : Type} (x : α) (l : List α) (d : α) : (x :: l).getLast?.getD d = l.getLast?.getD x := by
  rw [List.getLast?_cons]; rfl

theorem getLast?_getD_append {α : Type} (l1 l2 : List α) (d : α) :
    (l1 ++ l2).getLast?.getD d = l2.getLast?.getD (l1.getLast?.getD d) := by
  rw [List.getLast?_append]; cases l2.getLast? <;> rfl

theorem head?_getD_append {α : Type} (l1 l2 : List α) (d : α) :
    (l1 ++ l2).head?.getD d = l1.head?.getD (l2.head?.getD d) := by
  cases l1 <;> rfl

theorem getLast?_getD_mem {α : Type} {l : List α} (h : l ≠ []) (d : α) : l.getLast?.getD d ∈ l := by
  rw [List.getLast?_eq_some_getLast h]; exact List.getLast_mem h

theorem ne_getLast?_getD {α : Type} {l : List α} {j d : α} (hj : j ∉ l) (hd : j ≠ d) : j ≠ l.getLast?.getD d := by
  cases l with
  | nil => exact hd
  | cons x r => exact fun e => hj (e ▸ getLast?_getD_mem (List.cons_ne_nil x r) d)

theorem ne_head?_getD {α : Type} {l : List α} {j d : α} (hj : j ∉ l) (hd : j ≠ d) : j ≠ l.head?.getD d := by
  cases l with
  | nil => exact hd
  | cons x r => exact fun e => hj (e ▸ List.mem_cons_self)

theorem filter_eq_nil_of_false {α : Type} {p : α → Bool} {l : List α} (h : ∀ a ∈ l, p a = false) : l.filter p = [] :=
  List.filter_eq_nil_iff.mpr fun a ha => ne_true_of_eq_false (h a ha)

/-- a fold whose step leaves the accumulator alone on every element does nothing -/
theorem foldl_fixed {α β : Type} {f : β → α → β} {b : β} : ∀ {l : List α}, (∀ a ∈ l, f b a = b) → l.foldl f b = b
  | [], _ => rfl
  | a :: l, h => by
    rw [List.foldl_cons, h a List.mem_cons_self]
    exact foldl_fixed fun x hx => h x (List.mem_cons_of_mem _ hx)

/-- a simulation of one step lifts to folds over the same operations -/
theorem foldl_sim {σ τ ο : Type} {R : σ → τ → Prop} {f : σ → ο → σ} {g : τ → ο → τ} {P : ο → Prop}
    (hstep : ∀ {s t} o, R s t → P o → R (f s o) (g t o)) :
    ∀ (ops : List ο) {s : σ} {t : τ}, R s t → (∀ o ∈ ops, P o) → R (ops.foldl f s) (ops.foldl g t)
  | [], _, _, h, _ => h
  | o :: ops, _, _, h, hok =>
    foldl_sim hstep ops (hstep o h (hok o List.mem_cons_self)) fun o' ho => hok o' (List.mem_cons_of_mem _ ho)

theorem lowMask_eq {k : Nat} (hk : k ≤ 8) : ((1 <<< k) - 1) % 256 = 2 ^ k - 1 := by
  rw [Nat.one_shiftLeft]
  exact Nat.mod_eq_of_lt (Nat.lt_of_lt_of_le (Nat.sub_lt (Nat.two_pow_pos k) Nat.one_pos)
    (Nat.pow_le_pow_right (by decide) hk : 2 ^ k ≤ 2 ^ 8))

/-- a fold whose accumulator carries a verdict that never recovers: a final `true` was `true` all along -/
theorem foldl_ok {σ α : Type} {f : σ × Bool → α → σ × Bool} (hf : ∀ st e, (f st e).2 = true → st.2 = true) :
    ∀ (es : List α) (st : σ × Bool), (es.foldl f st).2 = true → st.2 = true
  | [], _, h => h
  | e :: es, st, h => hf st e (foldl_ok hf es (f st e) h)

end FFSM2
