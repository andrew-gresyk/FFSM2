import FFSM2.Lemmas.SimWorld
/-!
# History-blindness: compiling TRANSITION_HISTORY out changes nothing but `previousTransition()`

`envOff env` / `cfgOff cfg` is the build with the feature switched off, `erase` forgets the recorded transition.
`histView` reads the second run (feature off, from the erased state) off the first: the same state up to the
recorded transition, the same events up to the `previousTransition()` column of the API observations.  No step
reads the recorded transition; the four that write it under the switch (`finishProcessing`, `enterSurvivor`,
`finalExit`, `loadActive`) write what `erase` forgets.  The replay calls are the feature and are not covered.
-/
namespace FFSM2
open Step Ancestors

def envOff (env : Env) : Env := { env with cfg := { env.cfg with history := false } }
def erase (c : Core) : Core := { c with prev := {} }
def cfgOff (cfg : Cfg) : Cfg := { cfg with history := false }

def eraseW (w : World) : World := w.map (Option.map erase)

/-- an event with the `previousTransition()` column of an API observation blanked -/
def Ev.noPrev : Ev → Ev
  | .api i k name o => .api i k name { o with prev := none }
  | e => e

def noPrev (es : List Ev) : List Ev := es.map Ev.noPrev

@[simp] theorem noPrev_append (a b : List Ev) : noPrev (a ++ b) = noPrev a ++ noPrev b := by simp [noPrev]

theorem noPrev_noPrev (es : List Ev) : noPrev (noPrev es) = noPrev es := by
  simp only [noPrev, List.map_map]
  exact List.map_congr_left fun e _ => by cases e <;> rfl

theorem planDataClear_erase (c : Core) : planDataClear (erase c) = erase (planDataClear c) := rfl

theorem eraseW_get (w : World) (i : Nat) : (eraseW w).get i = (w.get i).map erase := World.get_image erase w i

theorem apiObs_off (cfg : Cfg) (c : Core) (ret : Option Bool) (bytes : Option (List Nat)) :
    Ev.noPrev (.api i k name (apiObs (cfgOff cfg) (erase c) ret bytes)) = Ev.noPrev (.api i k name (apiObs cfg c ret bytes)) := rfl

theorem save_off (cfg : Cfg) (c : Core) : save (cfgOff cfg) (erase c) = save cfg c := rfl

theorem erase_active (c : Core) : (erase c).active = c.active := rfl
theorem erase_request (c : Core) : (erase c).request = c.request := rfl
theorem erase_plan (c : Core) : (erase c).plan = c.plan := rfl
theorem cfgOff_manual (cfg : Cfg) : (cfgOff cfg).manual = cfg.manual := rfl
theorem cfgOff_plans (cfg : Cfg) : (cfgOff cfg).plans = cfg.plans := rfl
theorem cfgOff_serialization (cfg : Cfg) : (cfgOff cfg).serialization = cfg.serialization := rfl
theorem cfgOff_logging (cfg : Cfg) : (cfgOff cfg).logging = cfg.logging := rfl
theorem cfgOff_hasPayload (cfg : Cfg) : (cfgOff cfg).hasPayload = cfg.hasPayload := rfl
theorem cfgOff_idOk (cfg : Cfg) (d : Nat) : idOk (cfgOff cfg) d = idOk cfg d := rfl
theorem envOff_mk (cfg : Cfg) (beh : Beh) (i k : Nat) : (⟨cfgOff cfg, beh, i, k⟩ : Env) = envOff ⟨cfg, beh, i, k⟩ := rfl

def histView : View := .free id (fun _ => {}) noPrev rfl noPrev_append

theorem histView_agnostic : histView.Agnostic := View.free_agnostic _ _

theorem hist_logEv (env : Env) (s : St) (r : LogRec) (_ : histView.I s) :
    logEv (envOff env) (histView.κ s.core) r = histView.ψ (logEv env s.core r) := by
  show logEv env s.core r = noPrev (logEv env s.core r)
  unfold logEv; split <;> rfl

theorem hist_leaves (env : Env) : Leaves histView env (envOff env) :=
  leaves_of_agnostic histView_agnostic
    { cfg := rfl, beh := fun _ _ _ _ => rfl, cbEv := fun _ _ _ _ _ _ _ _ => rfl, actEv := fun _ _ _ _ _ => rfl, log := hist_logEv env,
      methodLog := methodLog_of_log rfl rfl (hist_logEv env), record := fun _ _ => rfl }
    rfl fun c => by unfold wipe envOff; dsimp only; cases env.cfg.plans <;> cases env.cfg.history <;> rfl

theorem hist_lifts (cfg : Cfg) (beh : Beh) : Lifts histView cfg (cfgOff cfg) beh beh :=
  lifts_of_agnostic histView_agnostic rfl (fun i k => hist_leaves ⟨cfg, beh, i, k⟩)
    fun _ => ⟨fun _ _ _ _ _ => rfl, fun _ _ => rfl⟩

/-- every call but the replay calls is covered -/
theorem hist_covers (cfg : Cfg) {op : Op} (hop : op.usesHistory = false) : Covers histView cfg (cfgOff cfg) op where
  plans _ := ⟨rfl, histView_agnostic⟩
  history e := by rw [hop] at e; cases e
  serialization _ := rfl
  construct _ _ _ := ⟨rfl, trivial⟩
  attach _ _ _ := ⟨rfl, rfl, fun _ _ => trivial⟩

/-- **one call with the feature compiled out mirrors the call with it compiled in** -/
theorem step_off (cfg : Cfg) (beh : Beh) (w : World) (k : Nat) (op : Op) (hop : op.usesHistory = false) :
    (step (cfgOff cfg) beh (eraseW w) k op).1 = eraseW (step cfg beh w k op).1 ∧
    noPrev (step (cfgOff cfg) beh (eraseW w) k op).2 = noPrev (step cfg beh w k op).2 :=
  have h := (step_sim (hist_lifts cfg beh) (fun _ _ _ => trivial) k op (hist_covers cfg hop)).1
  split_image noPrev_noPrev h

theorem stepAll_off (cfg : Cfg) (beh : Beh) (w : World) (k : Nat) (op : Op) (hop : op.usesHistory = false) :
    (stepAll (cfgOff cfg) beh (eraseW w) k op).1 = eraseW (stepAll cfg beh w k op).1 ∧
    noPrev (stepAll (cfgOff cfg) beh (eraseW w) k op).2 = noPrev (stepAll cfg beh w k op).2 :=
  have h := (stepAll_sim (hist_lifts cfg beh) (fun _ _ _ => trivial) k op (hist_covers cfg hop)).1
  split_image noPrev_noPrev h

theorem runFrom_off (cfg : Cfg) (beh : Beh) : ∀ (ops : List Op) (w : World) (k : Nat), (∀ op ∈ ops, op.usesHistory = false) →
    (runFrom (cfgOff cfg) beh (eraseW w) k ops).1 = eraseW (runFrom cfg beh w k ops).1 ∧
    noPrev (runFrom (cfgOff cfg) beh (eraseW w) k ops).2 = noPrev (runFrom cfg beh w k ops).2 := fun ops w k hops =>
  have h := (runFrom_sim (hist_lifts cfg beh) ops (w := w) k (fun _ _ _ => trivial) fun op ho => hist_covers cfg (hops op ho)).1
  split_image noPrev_noPrev h

end FFSM2
