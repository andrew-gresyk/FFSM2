import FFSM2.Lemmas.AllEv
import FFSM2.Lemmas.Delivery
import FFSM2.Lemmas.Effect
/-! The world of instances and whole histories (`step`, `stepAll`, `runFrom`, `run`).

Three normal forms of an API call.  `step_shape` (`StepShape` / `ApiStep`: which building block `step` runs, from which
core, what the call's guard established) and its flattening for `stepAll`, `stepAll_call` (`Call`), are relational: take
them for a case analysis over what can happen.  `effect` (Lemmas/Effect.lean, with `step_eq` / `stepAll_eq`) is
functional: take it to compare two runs, for facts that depend on the call's arguments, and for the equation of one
particular accepted call (`stepAll_guarded`, `stepAll_update` …).  `runFrom_induct` and its corollaries lift what holds
of every call to histories (comparing two runs has its own induction, `runFrom_sim_of` in Lemmas/SimWorld.lean); attribution of events to instances and independence of instances are at the end. -/
namespace FFSM2
open Step

def Ev.inst : Ev → Nat
  | .cb k _ _ => k.inst
  | .act k _ => k.inst
  | .log i _ => i
  | .api i _ _ _ => i
  | .rejected i _ _ => i

theorem envPred_inst (env : Env) : EnvPred env (fun e => e.inst = env.inst) :=
  ⟨fun _ _ _ _ _ _ _ => rfl, fun _ _ h _ => h, fun _ => rfl⟩

theorem World.get_put_same (w : World) (i : Nat) (c : Option Core) : (w.put i c).get i = c := by
  unfold World.put World.get
  rw [List.getD_eq_getElem?_getD, List.getElem?_set_self]
  · rfl
  · split
    · assumption
    · rw [List.length_append, List.length_replicate]; omega

theorem World.get_put_ne (w : World) (i j : Nat) (c : Option Core) (h : j ≠ i) : (w.put i c).get j = w.get j := by
  unfold World.put World.get
  rw [List.getD_eq_getElem?_getD, List.getD_eq_getElem?_getD, List.getElem?_set_ne (Ne.symm h)]
  split
  · rfl
  · rw [List.getElem?_append]
    split
    · rfl
    · rw [List.getElem?_eq_none_iff.mpr (Nat.le_of_not_lt ‹¬j < w.length›), List.getElem?_replicate]
      split <;> rfl

def Action.isAppend : Action → Bool
  | .planAppend .. => true
  | _ => false

inductive ApiTag where
  | construct | enter | exit | update | react | query | change | immediate | status | planAppend | planEdit | load
  | replayEnter | replayTransition | attachLogger
  deriving DecidableEq, Repr

def Op.tag : Op → Option ApiTag
  | .construct .. => some .construct
  | .enter .. => some .enter
  | .exit .. => some .exit
  | .update .. => some .update
  | .react .. => some .react
  | .query .. => some .query
  | .changeTo .. | .changeWith .. => some .change
  | .immediateChangeTo .. | .immediateChangeWith .. => some .immediate
  | .succeed .. | .fail .. => some .status
  | .planAppend .. => some .planAppend
  | .planClear .. | .planRemove .. => some .planEdit
  | .load .. => some .load
  | .replayEnter .. => some .replayEnter
  | .replayTransition .. => some .replayTransition
  | .attachLogger .. => some .attachLogger
  | _ => none

/-- which building block an accepted call runs, from which core (`slot` = what the slot held before), and
    what the call's own guard established -/
inductive ApiStep (cfg : Cfg) (w : World) (env : Env) : ApiTag → Option Core → Core → Step → Prop
  | constructManual (lg : Bool) : cfg.manual = true → ApiStep cfg w env .construct none (initCore cfg lg) skip
  | constructAuto (lg : Bool) : cfg.manual = false → ApiStep cfg w env .construct none (initCore cfg lg) (initialEnter env)
  | enter (c : Core) : cfg.manual = true → c.active = 255 → c.request.valid = false → ApiStep cfg w env .enter (some c) c (initialEnter env)
  | exit (c : Core) : cfg.manual = true → c.active ≠ 255 → ApiStep cfg w env .exit (some c) c (finalExit env)
  | update (c : Core) : c.active ≠ 255 → ApiStep cfg w env .update (some c) c (update env)
  | react (c : Core) : c.active ≠ 255 → ApiStep cfg w env .react (some c) c (react env)
  | query (c : Core) : c.active ≠ 255 → ApiStep cfg w env .query (some c) c (query env)
  | change (c : Core) (d : Nat) (p : Option Nat) : c.active ≠ 255 → d < cfg.n → ApiStep cfg w env .change (some c) c (extChange env d p)
  | immediate (c : Core) (d : Nat) (p : Option Nat) : c.active ≠ 255 → d < cfg.n →
      ApiStep cfg w env .immediate (some c) c (extChange env d p ⋙ processRequest env)
  | status (c : Core) (id : Nat) (ok : Bool) : ApiStep cfg w env .status (some c) c (extStatus env id ok)
  | planAppend (c : Core) (o d : Nat) (p : Option Nat) : permitted cfg .plan 0 (.planAppend o d p) = true →
      ApiStep cfg w env .planAppend (some c) c (applyAction env 255 (.planAppend o d p))
  | planEdit (c : Core) (a : Action) : a.isAppend = false → permitted cfg .plan 0 a = true → ApiStep cfg w env .planEdit (some c) c (applyAction env 255 a)
  | load (c sc : Core) (src : Nat) : w.get src = some sc → (cfg.manual = true ∨ (c.active ≠ 255 ∧ sc.active ≠ 255)) →
      ApiStep cfg w env .load (some c) c (load env (save cfg sc))
  | replayEnter (c : Core) (d : Nat) : cfg.history = true → cfg.manual = true → c.active = 255 → d < cfg.n → ApiStep cfg w env .replayEnter (some c) c (replayEnter env d)
  | replayClear (c : Core) : cfg.history = true → c.active ≠ 255 → ApiStep cfg w env .replayTransition (some c) c (modifyCore (fun c => { c with prev := c.prev.clear }))
  | replayTransition (c : Core) (d : Nat) : cfg.history = true → c.active ≠ 255 → d < cfg.n → ApiStep cfg w env .replayTransition (some c) c (replayTransition env d)
  | attachLogger (c : Core) (on : Bool) : ApiStep cfg w env .attachLogger (some c) c (modifyCore (fun c => { c with logger := on }))

/-- the possible outcomes of `step` on instance `i` at history index `k` -/
inductive StepShape (cfg : Cfg) (beh : Beh) (w : World) (k i : Nat) (op : Op) : World × List Ev → Prop
  | rejected (name : String) : StepShape cfg beh w k i op (w, [.rejected i k name])
  | call (tag : ApiTag) (slot : Option Core) (c : Core) (f : Step) (ret : Core → Option Bool) (name : String) :
      op.tag = some tag → w.get i = slot → ApiStep cfg w ⟨cfg, beh, i, k⟩ tag slot c f →
      StepShape cfg beh w k i op (onCore cfg w i k name c f ret)
  | destroyManual (c : Core) (name : String) : op = .destroy i → cfg.manual = true → w.get i = some c →
      StepShape cfg beh w k i op (w.put i none, [.api i k name (apiObs cfg c)])
  | destroyAuto (c : Core) (name : String) : op = .destroy i → cfg.manual = false → w.get i = some c →
      StepShape cfg beh w k i op (w.put i none, (finalExit ⟨cfg, beh, i, k⟩ { core := c }).2 ++
        [.api i k name (apiObs cfg (finalExit ⟨cfg, beh, i, k⟩ { core := c }).1.core)])
  | save (c : Core) (name : String) (o : ApiObs) : w.get i = some c → StepShape cfg beh w k i op (w, [.api i k name o])

theorem ne255_of_active {c : Core} (h : (c.active != 255) = true) : c.active ≠ 255 := by simpa using h

theorem StepShape.guarded {cfg : Cfg} {beh : Beh} {w : World} {k i : Nat} {op : Op} {tag : ApiTag} {c : Core} {f : Step}
    {ret : Core → Option Bool} {name : String} {g : Bool} (ht : op.tag = some tag) (hget : w.get i = some c)
    (hf : g = true → ApiStep cfg w ⟨cfg, beh, i, k⟩ tag (some c) c f) :
    StepShape cfg beh w k i op (if g then onCore cfg w i k name c f ret else (w, [.rejected i k name])) := by
  cases g
  · exact .rejected _
  · exact .call _ _ _ _ _ _ ht hget (hf rfl)

theorem step_shape (cfg : Cfg) (beh : Beh) (w : World) (k : Nat) (op : Op) :
    StepShape cfg beh w k op.inst op (step cfg beh w k op) := by
  unfold step
  dsimp only
  split
  · -- construct, free slot
    rename_i lg hget
    split
    · rename_i hm; exact .call _ none _ _ _ _ rfl hget (.constructManual _ hm)
    · rename_i hm; exact .call _ none _ _ _ _ rfl hget (.constructAuto _ (by simpa using hm))
  · exact .rejected _
  · exact .rejected _
  · -- destroy
    rename_i c hget
    split
    · rename_i hm; exact .destroyManual c _ rfl hm hget
    · rename_i hm; exact .destroyAuto c _ rfl (by simpa using hm) hget
  · exact .rejected _
  · -- enter
    rename_i c hget
    refine .guarded rfl hget fun h => ?_
    simp only [Bool.and_eq_true, Bool.not_eq_true', bne_eq_false_iff_eq] at h
    exact .enter c h.1.1 (by simpa using h.1.2) h.2
  · -- exit
    rename_i c hget
    refine .guarded rfl hget fun h => ?_
    simp only [Bool.and_eq_true] at h
    exact .exit c h.1 (ne255_of_active h.2)
  · rename_i c hget; exact .guarded rfl hget fun h => .update c (ne255_of_active h)
  · rename_i c hget; exact .guarded rfl hget fun h => .react c (ne255_of_active h)
  · rename_i c hget; exact .guarded rfl hget fun h => .query c (ne255_of_active h)
  · -- changeTo
    rename_i d c hget
    refine .guarded rfl hget fun h => ?_
    simp only [Bool.and_eq_true, idOk, decide_eq_true_eq] at h
    exact .change c d none (ne255_of_active h.1) h.2
  · rename_i d p c hget
    refine .guarded rfl hget fun h => ?_
    simp only [Bool.and_eq_true, idOk, decide_eq_true_eq] at h
    exact .change c d (some p) (ne255_of_active h.1.1) h.1.2
  · rename_i d c hget
    refine .guarded rfl hget fun h => ?_
    simp only [Bool.and_eq_true, idOk, decide_eq_true_eq] at h
    exact .immediate c d none (ne255_of_active h.1) h.2
  · rename_i d p c hget
    refine .guarded rfl hget fun h => ?_
    simp only [Bool.and_eq_true, idOk, decide_eq_true_eq] at h
    exact .immediate c d (some p) (ne255_of_active h.1.1) h.1.2
  · rename_i id c hget; exact .guarded rfl hget fun _ => .status c id true
  · rename_i id c hget; exact .guarded rfl hget fun _ => .status c id false
  · rename_i o d p c hget; exact .guarded rfl hget fun h => .planAppend c _ _ _ h
  · rename_i c hget; exact .guarded rfl hget fun h => .planEdit c .planClear rfl (by simpa [permitted] using h)
  · rename_i mask c hget; exact .guarded rfl hget fun h => .planEdit c (.planRemove mask) rfl (by simpa [permitted] using h)
  · -- save
    rename_i c hget
    split
    · exact .save c _ _ hget
    · exact .rejected _
  · -- load
    rename_i src c hget
    split
    · rename_i sc hsrc
      refine .guarded rfl hget fun h => .load c sc src hsrc ?_
      simp only [Bool.and_eq_true, Bool.or_eq_true] at h
      exact h.2.imp_right fun ⟨h1, h2⟩ => ⟨ne255_of_active h1, ne255_of_active h2⟩
    · exact .rejected _
  · -- replayEnter
    rename_i d c hget
    refine .guarded rfl hget fun h => ?_
    simp only [Bool.and_eq_true, idOk, decide_eq_true_eq, Bool.not_eq_true', bne_eq_false_iff_eq] at h
    exact .replayEnter c d h.1.1.1.1.1 h.1.1.1.1.2 (by simpa using h.1.1.1.2) h.2
  · -- replayTransition
    rename_i d c hget
    split
    · rename_i h
      simp only [Bool.and_eq_true, Bool.or_eq_true, idOk, decide_eq_true_eq] at h
      split
      · exact .call _ _ _ _ _ _ rfl hget (.replayClear c h.1.1 (ne255_of_active h.1.2))
      · rename_i hd
        exact .call _ _ _ _ _ _ rfl hget (.replayTransition c d h.1.1 (ne255_of_active h.1.2) (h.2.resolve_right hd))
    · exact .rejected _
  · rename_i on c hget; exact .guarded rfl hget fun _ => .attachLogger c on
  · exact .rejected _
  · exact .rejected _

/-! ### one description of every call

`stepAll_call`: whatever the call, at most one step `f` runs, from a core `c`; the slot of the call's instance is
rewritten or left alone, and exactly one boundary event closes the call.  `stepAll_trace` (what the trace of a call looks like) and `stepAll_all` (what a call does to an
invariant of every core) are its two projections; `runFrom_induct` lifts both to histories.  What can be said of
a trace without looking at the state goes through `stepAll_made`. -/

/-- the event that closes the API call with history index `k` on instance `i` -/
inductive CallEnd (i k : Nat) : Ev → Prop
  | api (name : String) (o : ApiObs) : CallEnd i k (.api i k name o)
  | rejected (name : String) : CallEnd i k (.rejected i k name)

/-- which entry point a call is, the two replica calls resolved to the call they make -/
def Op.call : Op → Option ApiTag
  | .replayFrom .. => some .replayTransition
  | .replayEnterFrom .. => some .replayEnter
  | op => op.tag

inductive Call (cfg : Cfg) (beh : Beh) (w : World) (k i : Nat) (op : Op) : World × List Ev → Prop
  | idle {b : Ev} : CallEnd i k b → Call cfg beh w k i op (w, [b])
  | api {tag : ApiTag} {slot : Option Core} {c : Core} {f : Step} {b : Ev} : op.call = some tag → w.get i = slot →
      ApiStep cfg w ⟨cfg, beh, i, k⟩ tag slot c f → CallEnd i k b →
      Call cfg beh w k i op (w.put i (some (f { core := c }).1.core), (f { core := c }).2 ++ [b])
  | destroyManual {c : Core} {b : Ev} : op = .destroy i → cfg.manual = true → w.get i = some c → CallEnd i k b →
      Call cfg beh w k i op (w.put i none, [b])
  | destroyAuto {c : Core} {b : Ev} : op = .destroy i → cfg.manual = false → w.get i = some c → CallEnd i k b →
      Call cfg beh w k i op (w.put i none, (finalExit ⟨cfg, beh, i, k⟩ { core := c }).2 ++ [b])
  | copy {src : Nat} {sc : Core} {b : Ev} : op = .copy i src → w.get i = none → w.get src = some sc → CallEnd i k b →
      Call cfg beh w k i op (w.put i (some sc), [b])

theorem Call.of_step {cfg : Cfg} {beh : Beh} {w : World} {k i : Nat} {op op' : Op} {r : World × List Ev}
    (h : StepShape cfg beh w k i op' r) (htag : ∀ tag, op'.tag = some tag → op.call = some tag)
    (hdes : op' = .destroy i → op = .destroy i) : Call cfg beh w k i op r := by
  cases h with
  | rejected name => exact .idle (.rejected name)
  | call tag slot c f ret name ht hget hf => exact .api (htag tag ht) hget hf (.api name _)
  | destroyManual c name hop hm hget => exact .destroyManual (hdes hop) hm hget (.api name _)
  | destroyAuto c name hop hm hget => exact .destroyAuto (hdes hop) hm hget (.api name _)
  | save c name o hget => exact .idle (.api name o)

theorem stepAll_call (cfg : Cfg) (beh : Beh) (w : World) (k : Nat) (op : Op) :
    Call cfg beh w k op.inst op (stepAll cfg beh w k op) := by
  unfold stepAll
  split
  · split
    · rename_i h1 h2; exact .copy rfl h1 h2 (.api _ _)
    · exact .idle (.rejected _)
  · split
    · exact .of_step (step_shape cfg beh w k (.replayTransition _ _)) (fun _ h => h) (fun e => by cases e)
    · exact .idle (.rejected _)
  · split
    · exact .of_step (step_shape cfg beh w k (.replayEnter _ _)) (fun _ h => h) (fun e => by cases e)
    · exact .idle (.rejected _)
  · rename_i h1 h2 h3
    refine .of_step (step_shape cfg beh w k op) (fun tag h => ?_) (fun e => e)
    cases op <;> first | exact h | cases h

theorem stepAll_trace {T : List Ev → Prop} (cfg : Cfg) (beh : Beh) (w : World) (k : Nat) (op : Op)
    (idle : ∀ b, CallEnd op.inst k b → T [b])
    (api : ∀ {tag slot c f} b, op.call = some tag → w.get op.inst = slot → ApiStep cfg w ⟨cfg, beh, op.inst, k⟩ tag slot c f →
      CallEnd op.inst k b → T ((f { core := c }).2 ++ [b]))
    (exit : ∀ c b, w.get op.inst = some c → CallEnd op.inst k b → T ((finalExit ⟨cfg, beh, op.inst, k⟩ { core := c }).2 ++ [b])) :
    T (stepAll cfg beh w k op).2 := by
  have h := stepAll_call cfg beh w k op
  generalize stepAll cfg beh w k op = r at h
  cases h with
  | idle hb => exact idle _ hb
  | api ht hget hf hb => exact api _ ht hget hf hb
  | destroyManual _ _ _ hb => exact idle _ hb
  | destroyAuto _ _ hget hb => exact exit _ _ hget hb
  | copy _ _ _ hb => exact idle _ hb

/-- a reading of traces in which boundary events do not show -/
def Inner {α : Type} (φ : List Ev → α) : Prop := ∀ (es : List Ev) {i k : Nat} {b : Ev}, CallEnd i k b → φ (es ++ [b]) = φ es

theorem inner_filterMap {β : Type} (g : Ev → Option β) (hg : ∀ {i k b}, CallEnd i k b → g b = none) :
    Inner (List.filterMap g) := by
  intro es i k b hb
  rw [List.filterMap_append, List.filterMap_cons, hg hb]
  exact List.append_nil _

theorem MethodPred.inner {p : Ev → Bool} (hp : MethodPred p) : Inner (List.filter p) := by
  intro es i k b hb
  rw [List.filter_append, List.filter_cons, hp.not_cb (by cases hb <;> rfl)]
  exact List.append_nil _

theorem stepAll_inner {α : Type} {φ : List Ev → α} (hφ : Inner φ) {T : α → Prop} (cfg : Cfg) (beh : Beh) (w : World) (k : Nat) (op : Op)
    (nil : T (φ []))
    (api : ∀ {tag slot c f}, op.call = some tag → w.get op.inst = slot → ApiStep cfg w ⟨cfg, beh, op.inst, k⟩ tag slot c f →
      T (φ (f { core := c }).2))
    (exit : ∀ c, w.get op.inst = some c → T (φ (finalExit ⟨cfg, beh, op.inst, k⟩ { core := c }).2)) :
    T (φ (stepAll cfg beh w k op).2) :=
  stepAll_trace (T := fun es => T (φ es)) cfg beh w k op (fun _ hb => by rw [← List.nil_append [_], hφ [] hb]; exact nil)
    (fun _ ht hg hf hb => by rw [hφ _ hb]; exact api ht hg hf) (fun c _ hg hb => by rw [hφ _ hb]; exact exit c hg)

theorem Op.call_cases {op : Op} {tag : ApiTag} (h : op.call = some tag) :
    op.tag = some tag ∨ tag = .replayTransition ∨ tag = .replayEnter := by
  cases op with
  | replayFrom => cases h; exact Or.inr (Or.inl rfl)
  | replayEnterFrom => cases h; exact Or.inr (Or.inr rfl)
  | _ => exact Or.inl h

theorem Op.call_update {op : Op} (h : op.call = some .update) : op = .update op.inst := by
  cases op with
  | update => rfl
  | _ => cases h

theorem Op.call_react {op : Op} (h : op.call = some .react) : op = .react op.inst := by
  cases op with
  | react => rfl
  | _ => cases h

theorem Op.call_planAppend {op : Op} (h : op.call = some .planAppend) : ∃ o d p, op = .planAppend op.inst o d p := by
  cases op with
  | planAppend => exact ⟨_, _, _, rfl⟩
  | _ => cases h

/-- `WorldOk`, `WProv`, `WorldIdle`, `WorldNoLog` and `View.Holds` are this, each for its `Q`, by unfolding -/
def World.All (Q : Core → Prop) (w : World) : Prop := ∀ i c, w.get i = some c → Q c

theorem World.All.nil (Q : Core → Prop) : World.All Q [] := by
  intro i c h
  simp [World.get] at h

theorem World.All.put {Q : Core → Prop} {w : World} (hw : w.All Q) (i : Nat) {c : Option Core}
    (hc : ∀ c0, c = some c0 → Q c0) : (w.put i c).All Q := by
  intro j cj hj
  by_cases e : j = i
  · subst e
    rw [World.get_put_same] at hj
    exact hc cj hj
  · rw [World.get_put_ne _ _ _ _ e] at hj
    exact hw j cj hj

theorem ApiStep.start_of {cfg : Cfg} {w : World} {env : Env} {tag : ApiTag} {slot : Option Core} {c : Core} {f : Step}
    {Q : Core → Prop} (h : ApiStep cfg w env tag slot c f) (init : ∀ lg, Q (initCore cfg lg)) (hc : slot = some c → Q c) : Q c := by
  cases h with
  | constructManual lg | constructAuto lg => exact init lg
  | _ => exact hc rfl

/-- a property of cores that every accepted call establishes, given it of the core in the slot (a fresh core
    need not have it), is kept by every call -/
theorem stepAll_all {Q : Core → Prop} (cfg : Cfg) (beh : Beh) {w : World} (k : Nat) (op : Op) (hw : w.All Q)
    (api : ∀ {tag slot c f}, ApiStep cfg w ⟨cfg, beh, op.inst, k⟩ tag slot c f → (slot = some c → Q c) → Q (f { core := c }).1.core) :
    (stepAll cfg beh w k op).1.All Q := by
  have h := stepAll_call cfg beh w k op
  generalize stepAll cfg beh w k op = r at h
  cases h with
  | idle => exact hw
  | api _ hget hf => exact hw.put _ fun _ e => by cases e; exact api hf fun e => hw _ _ (hget.trans e)
  | destroyManual | destroyAuto => exact hw.put _ fun _ e => by cases e
  | copy _ _ hsrc => exact hw.put _ fun _ e => by cases e; exact hw _ _ hsrc

/-- induction over a history: `I` an invariant of the world, `R` a relation between the world before, the
    trace and the world after that holds of no call at all and composes along `++`.  `one` may use which call
    of the history it is asked about. -/
theorem runFrom_induct (cfg : Cfg) (beh : Beh) {I : World → Prop} {R : World → List Ev → World → Prop}
    (refl : ∀ w, R w [] w) (trans : ∀ {a es b es' c}, R a es b → R b es' c → R a (es ++ es') c) :
    ∀ (ops : List Op) (k0 : Nat),
      (∀ w k op, op ∈ ops → k < k0 + ops.length → I w →
        I (stepAll cfg beh w k op).1 ∧ R w (stepAll cfg beh w k op).2 (stepAll cfg beh w k op).1) →
      ∀ w, I w → I (runFrom cfg beh w k0 ops).1 ∧ R w (runFrom cfg beh w k0 ops).2 (runFrom cfg beh w k0 ops).1
  | [], _, _, w, hw => ⟨hw, refl w⟩
  | op :: ops, k0, one, w, hw => by
    obtain ⟨h1, h2⟩ := one w k0 op (List.mem_cons_self ..) (by simp) hw
    obtain ⟨r1, r2⟩ := runFrom_induct cfg beh refl trans ops (k0 + 1)
      (fun w k op' hm hk => one w k op' (List.mem_cons_of_mem _ hm) (by simp only [List.length_cons]; omega)) _ h1
    exact ⟨r1, trans h2 r2⟩

theorem runFrom_inv (cfg : Cfg) (beh : Beh) {I : World → Prop} (step : ∀ w k op, I w → I (stepAll cfg beh w k op).1)
    (ops : List Op) (k : Nat) (w : World) (hw : I w) : I (runFrom cfg beh w k ops).1 :=
  (runFrom_induct cfg beh (R := fun _ _ _ => True) (fun _ => trivial) (fun _ _ => trivial) ops k
    (fun w k op _ _ hw => ⟨step w k op hw, trivial⟩) w hw).1

theorem runFrom_forall (cfg : Cfg) (beh : Beh) {I : World → Prop} {P : Ev → Prop} (ops : List Op) (k0 : Nat)
    (one : ∀ w k op, op ∈ ops → k < k0 + ops.length → I w →
      I (stepAll cfg beh w k op).1 ∧ ∀ e ∈ (stepAll cfg beh w k op).2, P e)
    (w : World) (hw : I w) : ∀ e ∈ (runFrom cfg beh w k0 ops).2, P e :=
  (runFrom_induct cfg beh (R := fun _ es _ => ∀ e ∈ es, P e) (fun _ _ h => by cases h)
    (fun h1 h2 e he => (List.mem_append.mp he).elim (h1 e) (h2 e)) ops k0 one w hw).2

theorem runFrom_trace (cfg : Cfg) (beh : Beh) {T : List Ev → Prop} (nil : T []) (app : ∀ {a b}, T a → T b → T (a ++ b))
    (one : ∀ w k op, T (stepAll cfg beh w k op).2) (ops : List Op) (w : World) (k : Nat) : T (runFrom cfg beh w k ops).2 :=
  (runFrom_induct cfg beh (I := fun _ => True) (R := fun _ es _ => T es) (fun _ => nil) app ops k
    (fun w k op _ _ _ => ⟨trivial, one w k op⟩) w trivial).2

/-! ### accepted calls, by entry point

An accepted call is `onCore` of its step; a reading that does not see the boundary reads the step's events.  So a theorem
about one call rewrites with the call's equation (`stepAll_update` …, or `stepAll_guard` when the rejected branch matters),
reads the trace through `onCore_inner` and the slot through `onCore_get`, and is then a statement about the step. -/

theorem onCore_inner {α : Type} {φ : List Ev → α} (hφ : Inner φ) (cfg : Cfg) (w : World) (i k : Nat) (name : String) (c : Core)
    (f : Step) (ret : Core → Option Bool) : φ (onCore cfg w i k name c f ret).2 = φ (f { core := c }).2 :=
  hφ _ (.api name _)

theorem onCore_get (cfg : Cfg) (w : World) (i k : Nat) (name : String) (c : Core) (f : Step) (ret : Core → Option Bool) :
    (onCore cfg w i k name c f ret).1.get i = some (f { core := c }).1.core := World.get_put_same _ _ _

theorem onCore_mem_cb {cfg : Cfg} {w : World} {i k : Nat} {name : String} {c : Core} {f : Step} {ret : Core → Option Bool}
    {e : Ev} {key : Key} {vis : Bool} {o : Obs} (he : e ∈ (onCore cfg w i k name c f ret).2) (hk : e = Ev.cb key vis o) :
    e ∈ (f { core := c }).2 :=
  (List.mem_append.mp he).resolve_right fun h => by rw [List.mem_singleton.mp h] at hk; cases hk

/-- `immediateChange…()`: the request is written and recorded, then processed -/
theorem immediate_eq (env : Env) (d : Nat) (p : Option Nat) (c : Core) :
    (extChange env d p ⋙ processRequest env) { core := c } =
      ((processRequest env { core := { c with request := ⟨255, d, p⟩ } }).1,
       logEv env c (.transition 255 d) ++ (processRequest env { core := { c with request := ⟨255, d, p⟩ } }).2) := rfl

/-- a call on an existing instance whose effect is guarded: the call's step if the guard holds, a rejection otherwise.
    `hop` is `rfl` for every call but `copy` and the replica calls, `he` for every call but `load` (which reads the
    source's slot first). -/
theorem stepAll_guard {cfg : Cfg} {beh : Beh} {w : World} {k : Nat} {op : Op} {g : Bool} {c : Core} {f : Step} {ret : Core → Option Bool}
    (hop : effectAll ⟨cfg, beh, op.inst, k⟩ w op = effect ⟨cfg, beh, op.inst, k⟩ w op (w.get op.inst)) (hget : w.get op.inst = some c)
    (he : effect ⟨cfg, beh, op.inst, k⟩ w op (some c) = .guarded g c f ret) :
    stepAll cfg beh w k op = if g then onCore cfg w op.inst k op.name c f ret else (w, [.rejected op.inst k op.name]) := by
  rw [stepAll_eq, hop, hget, he, Effect.realize_guarded]

theorem stepAll_guarded {cfg : Cfg} {beh : Beh} {w : World} {k : Nat} {op : Op} {g : Bool} {c : Core} {f : Step} {ret : Core → Option Bool}
    (hop : effectAll ⟨cfg, beh, op.inst, k⟩ w op = effect ⟨cfg, beh, op.inst, k⟩ w op (w.get op.inst)) (hget : w.get op.inst = some c)
    (he : effect ⟨cfg, beh, op.inst, k⟩ w op (some c) = .guarded g c f ret) (hg : g = true) :
    stepAll cfg beh w k op = onCore cfg w op.inst k op.name c f ret :=
  (stepAll_guard hop hget he).trans (if_pos hg)

section accepted
variable (cfg : Cfg) (beh : Beh) {w : World} (k : Nat) {i : Nat} {c : Core} (hg : w.get i = some c)
include hg

theorem stepAll_update (ha : c.active ≠ 255) :
    stepAll cfg beh w k (.update i) = onCore cfg w i k "update" c (update ⟨cfg, beh, i, k⟩) :=
  stepAll_guarded rfl hg rfl (bne_iff_ne.mpr ha)

theorem stepAll_react (ha : c.active ≠ 255) :
    stepAll cfg beh w k (.react i) = onCore cfg w i k "react" c (react ⟨cfg, beh, i, k⟩) :=
  stepAll_guarded rfl hg rfl (bne_iff_ne.mpr ha)

theorem stepAll_query (ha : c.active ≠ 255) :
    stepAll cfg beh w k (.query i) = onCore cfg w i k "query" c (query ⟨cfg, beh, i, k⟩) :=
  stepAll_guarded rfl hg rfl (bne_iff_ne.mpr ha)

theorem stepAll_changeTo {d : Nat} (h : (c.active != 255 && idOk cfg d) = true) :
    stepAll cfg beh w k (.changeTo i d) = onCore cfg w i k "changeTo" c (extChange ⟨cfg, beh, i, k⟩ d none) :=
  stepAll_guarded rfl hg rfl h

theorem stepAll_immediateChangeTo {d : Nat} (h : (c.active != 255 && idOk cfg d) = true) :
    stepAll cfg beh w k (.immediateChangeTo i d) =
      onCore cfg w i k "immediateChangeTo" c (extChange ⟨cfg, beh, i, k⟩ d none ⋙ processRequest ⟨cfg, beh, i, k⟩) :=
  stepAll_guarded rfl hg rfl h

theorem stepAll_immediateChangeWith {d p : Nat} (h : (c.active != 255 && idOk cfg d && cfg.hasPayload) = true) :
    stepAll cfg beh w k (.immediateChangeWith i d p) =
      onCore cfg w i k "immediateChangeWith" c (extChange ⟨cfg, beh, i, k⟩ d (some p) ⋙ processRequest ⟨cfg, beh, i, k⟩) :=
  stepAll_guarded rfl hg rfl h

theorem stepAll_load {src : Nat} {sc : Core} (hs : w.get src = some sc)
    (h : (cfg.serialization && (cfg.manual || (c.active != 255 && sc.active != 255))) = true) :
    stepAll cfg beh w k (.load i src) = onCore cfg w i k "load" c (load ⟨cfg, beh, i, k⟩ (save cfg sc)) :=
  stepAll_guarded rfl hg (by simp only [effect, hs]; rfl) h

end accepted

theorem load_cond {cfg : Cfg} {c sc : Core} (hser : cfg.serialization = true)
    (h : cfg.manual = true ∨ (c.active ≠ 255 ∧ sc.active ≠ 255)) :
    (cfg.serialization && (cfg.manual || (c.active != 255 && sc.active != 255))) = true := by simpa [hser] using h

theorem onCore_snd (cfg : Cfg) (w : World) (i k : Nat) (name : String) (c : Core) (f : Step) (ret : Core → Option Bool) :
    (onCore cfg w i k name c f ret).2 =
      (f { core := c }).2 ++ [.api i k name (apiObs cfg (f { core := c }).1.core (ret (f { core := c }).1.core))] := rfl

/-- the callbacks an entry point can deliver -/
def ApiTag.delivers : ApiTag → Method → Bool
  | .construct, m | .enter, m | .immediate, m => m.isGuard || m.isLife
  | .exit, m | .load, m | .replayEnter, m | .replayTransition, m => m.isLife
  | .update, m => m == .preUpdate || m == .update || m == .postUpdate || m == .planFailed || m == .planSucceeded || m.isGuard || m.isLife
  | .react, m => m == .preReact || m == .react || m == .postReact || m == .planFailed || m == .planSucceeded || m.isGuard || m.isLife
  | .query, m => m == .query
  | _, _ => false

/-- whatever an accepted call runs emits log records and the deliveries of its entry point only -/
theorem emits_apiStep {cfg : Cfg} {w : World} {env : Env} {tag : ApiTag} {slot : Option Core} {c : Core} {f : Step}
    (h : ApiStep cfg w env tag slot c f) : Emits env (fun m _ _ _ => tag.delivers m = true) f := by
  have hG : ∀ {tag : ApiTag}, tag.delivers .exitGuard = true → tag.delivers .entryGuard = true →
      ∀ c p, Guards (fun m _ _ _ => tag.delivers m = true) c p :=
    fun h1 h2 _ _ m _ hm => by
      cases m with
      | exitGuard => exact h1
      | entryGuard => exact h2
      | _ => cases hm
  have hL : ∀ {tag : ApiTag}, tag.delivers .enter = true → tag.delivers .exit = true → tag.delivers .reenter = true →
      ∀ c, Life (fun m _ _ _ => tag.delivers m = true) c :=
    fun h1 h2 h3 _ m _ hm => by
      cases m with
      | enter => exact h1
      | exit => exact h2
      | reenter => exact h3
      | _ => cases hm
  cases h with
  | constructManual => exact emits_skip
  | constructAuto | enter => exact emits_initialEnter (hG rfl rfl) (hL rfl rfl rfl)
  | exit => exact emits_finalExit (hL rfl rfl rfl _)
  | update | react => exact emits_cycle (fun _ => rfl) (fun _ => rfl) (fun _ => rfl) rfl rfl (hG rfl rfl) (hL rfl rfl rfl)
  | query => exact emits_query fun _ => rfl
  | change => exact emits_extChange _ _
  | immediate => exact .seq (emits_extChange _ _) (emits_processRequest (hG rfl rfl) (hL rfl rfl rfl))
  | status => exact emits_extStatus _ _
  | planAppend | planEdit => exact emits_applyAction _ _
  | load => exact emits_load (hL rfl rfl rfl _) _
  | replayEnter => exact emits_replayEnter (hL rfl rfl rfl _) _
  | replayClear | attachLogger => exact emits_modifyCore _
  | replayTransition => exact emits_replayTransition (hL rfl rfl rfl _) _

theorem apiStep_silent {cfg : Cfg} {w : World} {env : Env} {tag : ApiTag} {slot : Option Core} {c : Core} {f : Step} {p : Ev → Bool}
    (hp : MethodPred p) (h : ApiStep cfg w env tag slot c f) (hx : ∀ m, tag.delivers m = true → Excl p m) : Silent p f :=
  Emits.silent hp fun s => (emits_apiStep h s).mono fun m _ _ _ => hx m

theorem apiStep_noGuard {cfg : Cfg} {w : World} {env : Env} {tag : ApiTag} {slot : Option Core} {c : Core} {f : Step}
    (h : ApiStep cfg w env tag slot c f) (hx : tag.delivers .exitGuard = false) (he : tag.delivers .entryGuard = false) : NoGuard f :=
  apiStep_silent methodPred_isGuard h fun m hm => guard_excludes (by
    cases m <;> first | rfl | (rw [hm] at hx; cases hx) | (rw [hm] at he; cases he))

/-- the trace of a call is made of whole deliveries and log records, closed by the boundary: every trace-only
    fact about blocks (`Made`) reaches calls through this -/
theorem stepAll_made (cfg : Cfg) (beh : Beh) (w : World) (k : Nat) (op : Op) :
    ∃ es b, (stepAll cfg beh w k op).2 = es ++ [b] ∧ Made ⟨cfg, beh, op.inst, k⟩ Any es ∧ CallEnd op.inst k b :=
  stepAll_trace (T := fun t => ∃ es b, t = es ++ [b] ∧ Made ⟨cfg, beh, op.inst, k⟩ Any es ∧ CallEnd op.inst k b) cfg beh w k op
    (fun b hb => ⟨[], b, rfl, .nil, hb⟩)
    (fun b _ _ hf hb => ⟨_, b, rfl, (emits_apiStep hf _).mono fun _ _ _ _ _ => trivial, hb⟩)
    (fun _ b _ hb => ⟨_, b, rfl, emits_finalExit (fun _ _ _ => trivial) _, hb⟩)

theorem stepAll_allEv {cfg : Cfg} {beh : Beh} {k : Nat} {op : Op} {P : Ev → Prop} (hP : EnvPred ⟨cfg, beh, op.inst, k⟩ P)
    (hb : ∀ b, CallEnd op.inst k b → P b) (w : World) : ∀ e ∈ (stepAll cfg beh w k op).2, P e := by
  obtain ⟨es, b, e, hm, hbd⟩ := stepAll_made cfg beh w k op
  rw [e]
  intro x hx
  rcases List.mem_append.mp hx with hx | hx
  · exact hm.allEv hP x hx
  · rw [List.mem_singleton.mp hx]; exact hb b hbd

theorem CallEnd.inst {i k : Nat} {b : Ev} (h : CallEnd i k b) : b.inst = i := by cases h <;> rfl

/-- **every event of an API call belongs to the instance the call was made on** -/
theorem stepAll_events_inst (cfg : Cfg) (beh : Beh) (w : World) (k : Nat) (op : Op) :
    ∀ e ∈ (stepAll cfg beh w k op).2, e.inst = op.inst :=
  stepAll_allEv (envPred_inst ⟨cfg, beh, op.inst, k⟩) (fun _ h => h.inst) w

/-- **instances are independent**: a call on one instance leaves every other slot untouched -/
theorem stepAll_other (cfg : Cfg) (beh : Beh) (w : World) (k : Nat) (op : Op) (j : Nat) (hj : j ≠ op.inst) :
    (stepAll cfg beh w k op).1.get j = w.get j := by
  have h := stepAll_call cfg beh w k op
  generalize stepAll cfg beh w k op = r at h
  cases h with
  | idle => rfl
  | _ => exact World.get_put_ne _ _ _ _ hj

end FFSM2
