import FFSM2.Lemmas.Keeps
import FFSM2.Lemmas.World
/-! `planExists = false` is kept by every building block as long as user code appends no task: only
    `plan().change…()` sets the flag.  (What F6 left to chance is an invariant here.) -/
namespace FFSM2
open Step Ancestors

/-- no task has been appended (since the flag was last reset) -/
def NoPlanQ (c : Core) : Prop := c.planExists = false

/-- the callbacks of this instance never append a task -/
def NoAppendBeh (env : Env) : Prop := ∀ key : Key, key.inst = env.inst → ∀ a ∈ env.beh key, a.isAppend = false

theorem keepsNP_applyAction (env : Env) (sid : Nat) (a : Action) (ha : a.isAppend = false) : Keeps NoPlanQ (applyAction env sid a) := by
  intro s h
  cases a with
  | planAppend o d p => cases ha
  | _ => exact h

theorem keepsNP_deliver (env : Env) (hb : NoAppendBeh env) (m : Method) (sid : Nat) (cur pend : Tr) :
    Keeps NoPlanQ (deliver env m sid cur pend) :=
  sat_deliver (keeps_composes _) (fun _ h => h) (fun _ _ h => h)
    (fun _ _ a s hmem _ => keepsNP_applyAction env sid a (hb _ rfl a hmem) s)

theorem np_wipe (cfg : Cfg) {c : Core} (h : NoPlanQ c) : NoPlanQ (wipe cfg c) := by
  unfold wipe
  cases cfg.plans <;> cases cfg.history <;> first | exact h | rfl

/-- the flag is all the judgment reads of the state; nothing writes it but an append action (up) and the `wipe` (down) -/
theorem keepsNP_sees : Sees (fun s => s.core.planExists) (fun s _ s' => NoPlanQ s.core → NoPlanQ s'.core) where
  toComposes := keeps_composes _
  silent e h := e.trans h

theorem planExists_ignored : IgnoresFlow fun s => s.core.planExists := fun _ _ _ _ _ _ _ _ _ _ => rfl

section blocks
variable (env : Env) (hb : NoAppendBeh env)
include hb

theorem keepsNP_processRequest : Keeps NoPlanQ (processRequest env) :=
  sees_processRequest keepsNP_sees planExists_ignored (fun _ _ _ _ _ => keepsNP_deliver env hb _ _ _ _) fun _ _ _ _ => keepsNP_deliver env hb _ _ _ _

theorem keepsNP_initialEnter : Keeps NoPlanQ (initialEnter env) :=
  sees_initialEnter keepsNP_sees planExists_ignored (fun _ _ _ _ _ => keepsNP_deliver env hb _ _ _ _) fun _ _ _ _ => keepsNP_deliver env hb _ _ _ _

theorem keepsNP_finalExit : Keeps NoPlanQ (finalExit env) :=
  sees_finalExit keepsNP_sees planExists_ignored.life (keeps_modifyCore fun _ h => by split <;> exact h) (keeps_modifyCore fun _ h => h)
    (keeps_modifyCore fun _ => np_wipe _) fun _ _ _ => keepsNP_deliver env hb _ _ _ _

theorem keepsNP_phase (m : Method) (hf : Bool) : Keeps NoPlanQ (phase env m hf) :=
  sees_phase keepsNP_sees (fun _ _ _ => rfl) (fun _ => keepsNP_deliver env hb _ _ _ _) hf

theorem keepsNP_replayTransition (d : Nat) : Keeps NoPlanQ (replayTransition env d) :=
  sees_replayTransition keepsNP_sees planExists_ignored.life planExists_ignored.hist (fun _ _ _ => keepsNP_deliver env hb _ _ _ _) d

theorem keepsNP_replayEnter (d : Nat) : Keeps NoPlanQ (replayEnter env d) :=
  sees_replayEnter keepsNP_sees planExists_ignored.life planExists_ignored.hist (fun _ _ _ => keepsNP_deliver env hb _ _ _ _) d

theorem keepsNP_load (buf : List Nat) : Keeps NoPlanQ (load env buf) :=
  sees_load keepsNP_sees planExists_ignored.life (fun _ => keeps_modifyCore fun _ h => h) (keeps_modifyCore fun _ => np_wipe _)
    (fun _ _ _ => keepsNP_deliver env hb _ _ _ _) (keepsNP_finalExit env hb) buf

end blocks

/-- deactivation resets the flag whatever it was -/
theorem finalExit_noPlan (env : Env) (hp : env.cfg.plans = true) (s : St) : NoPlanQ (finalExit env s).1.core := by
  unfold finalExit
  simp only [Step.seq, modifyCore, hp, if_true]
  cases env.cfg.history <;> rfl

/-- with the flag down the plan step does nothing at all -/
theorem planStep_noPlan (env : Env) (s : St) (h : NoPlanQ s.core) :
    (planStep env s).2 = [] ∧ NoPlanQ (planStep env s).1.core := by
  rw [planStep_skip env s (by rw [show s.core.planExists = false from h, Bool.and_false])]
  exact ⟨rfl, h⟩

theorem keepsNP_extChange (env : Env) (d : Nat) (p : Option Nat) : Keeps NoPlanQ (extChange env d p) := fun _ h => h

theorem keepsNP_extStatus (env : Env) (id : Nat) (ok : Bool) : Keeps NoPlanQ (extStatus env id ok) := fun _ h => by
  cases ok <;> exact h

end FFSM2
