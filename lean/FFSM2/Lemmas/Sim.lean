import FFSM2.Lemmas.Blocks
/-!
# One run read off another

Every "neutrality" result of the development has the same shape: run the model a second time — under another
environment `env'` (a feature switch compiled out, another instance id), from a state with the logger flag or the
recorded transition erased — and the second run is a function of the first: its state is the first's seen through
`φ`, its events are `ψ` of the first's, provided the first run starts from (and then keeps) an invariant `I`.
`View` names the ingredients (`I`, `ψ`, and `ℓ` / `π` from which `φ` is built), `Sim V f f'` is the statement for one pair of steps, `Leaves V env env'` collects
what has to be known about the primitive operations, and the rest of the file walks the model's building blocks
once, for all views.
-/
namespace FFSM2
open Step Ancestors

/-- what the invariant of a view may read: the plan data, the logger flag and the control's task status (so not the
    registry, the request, the recorded transition, nor `seen` and `cancelled`: that is what lets the delivery counter and the
    guard rounds through `View.frame` without a side condition) -/
def St.kept (s : St) : List Task × Bool × List Bool × List Bool × Status × Bool × Status :=
  (s.core.plan, s.core.planExists, s.core.succ, s.core.fail, s.core.subStatus, s.core.logger, s.ts)

/-- How the second run is read off the first.  `ℓ` / `π` replace the logger flag and the recorded transition (no
    view erases anything else of the state), `ψ` maps the events, `I` is the invariant of the first run.  Because a view
    touches only these two fields and `I` reads only `St.kept`, every write of the registry or the request commutes with
    the view without a side condition (`sim_reg`). -/
structure View where
  I : St → Prop
  ℓ : Bool → Bool
  π : Tr → Tr
  ψ : List Ev → List Ev
  ψ_nil : ψ [] = []
  ψ_append : ∀ a b, ψ (a ++ b) = ψ a ++ ψ b
  /-- `I` reads nothing but `St.kept` -/
  frame : ∀ s s', I s → s'.kept = s.kept → I s'
  /-- … and survives the resets of the control's task status and its accumulation into `subStatus` -/
  reset : ∀ s, I s → I { s with ts := .none }
  accum : ∀ s, I s → I { s with core := { s.core with subStatus := s.core.subStatus.or s.ts } }

namespace View
variable (V : View)
def κ (c : Core) : Core := { c with logger := V.ℓ c.logger, prev := V.π c.prev }
def φ (s : St) : St := { s with core := V.κ s.core }
end View

/-- `f'` run on the image of a state of the first run gives the image of what `f` gives -/
def Sim (V : View) (f f' : Step) : Prop :=
  ∀ s, V.I s → f' (V.φ s) = (V.φ (f s).1, V.ψ (f s).2) ∧ V.I (f s).1

section combinators
variable {V : View}

theorem Sim.seq {f g f' g' : Step} (hf : Sim V f f') (hg : Sim V g g') : Sim V (f ⋙ g) (f' ⋙ g') := by
  intro s hs
  obtain ⟨f1, f2⟩ := hf s hs
  obtain ⟨g1, g2⟩ := hg (f s).1 f2
  refine ⟨?_, g2⟩
  simp only [Step.seq, f1, g1, V.ψ_append]

theorem sim_skip : Sim V skip skip := fun _ hs => ⟨by simp only [skip, V.ψ_nil], hs⟩

theorem sim_modify {m m' : St → St} (h : ∀ s, V.I s → m' (V.φ s) = V.φ (m s) ∧ V.I (m s)) :
    Sim V (Step.modify m) (Step.modify m') :=
  fun s hs => ⟨by simp only [Step.modify, (h s hs).1, V.ψ_nil], (h s hs).2⟩

theorem sim_modifyCore {m m' : Core → Core} (hκ : ∀ c, m' (V.κ c) = V.κ (m c))
    (hI : ∀ s, V.I s → V.I { s with core := m s.core }) : Sim V (modifyCore m) (modifyCore m') :=
  fun s hs => ⟨by simp only [modifyCore, View.φ, hκ, V.ψ_nil], hI s hs⟩

/-- a write to the registry and the request that reads nothing a view may erase -/
theorem sim_reg {a r : Core → Nat} {q : Core → Tr} (h : ∀ c, (a (V.κ c), r (V.κ c), q (V.κ c)) = (a c, r c, q c)) :
    Sim V (modifyCore fun c => { c with active := a c, requested := r c, request := q c })
          (modifyCore fun c => { c with active := a c, requested := r c, request := q c }) :=
  sim_modifyCore (fun c => by injection h c with h1 h2; injection h2 with h2 h3; simp only [h1, h2, h3]; rfl)
    fun s hs => V.frame s _ hs rfl

theorem sim_emit {e e' : St → List Ev} (h : ∀ s, V.I s → e' (V.φ s) = V.ψ (e s)) : Sim V (emit e) (emit e') :=
  fun s hs => ⟨by simp only [emit, h s hs], hs⟩

theorem sim_reading {sel : Core → Nat} (hsel : ∀ c, sel (V.κ c) = sel c) {g g' : Nat → Step} (h : ∀ a, Sim V (g a) (g' a)) :
    Sim V (reading sel g) (reading sel g') := by
  intro s hs
  show g' (sel (V.κ s.core)) (V.φ s) = _ ∧ _
  rw [hsel]; exact h _ s hs

theorem sim_ite (c : St → Bool) (hc : ∀ s, c (V.φ s) = c s) {t e t' e' : Step} (ht : Sim V t t') (he : Sim V e e') :
    Sim V (fun s => if c s then t s else e s) (fun s => if c s then t' s else e' s) := by
  intro s hs
  show (if c (V.φ s) then t' (V.φ s) else e' (V.φ s)) = _ ∧ _
  rw [hc]
  dsimp only
  split
  · exact ht s hs
  · exact he s hs

theorem sim_seqList_map {α : Type} (l : List α) {g g' : α → Step} (h : ∀ x ∈ l, Sim V (g x) (g' x)) :
    Sim V (seqList (l.map g)) (seqList (l.map g')) := by
  induction l with
  | nil => exact sim_skip
  | cons x xs ih => exact Sim.seq (h x (by simp)) (ih fun y hy => h y (by simp [hy]))

end combinators

/-- two configurations that differ in feature switches only -/
abbrev Cfg.UpToSwitches (c c' : Cfg) : Prop :=
  c' = { c with
    plans := c'.plans, history := c'.history, serialization := c'.serialization, logging := c'.logging,
    verbose := c'.verbose }

/-- What a view has to know about the primitive operations under `env` and `env'`: the part that has nothing to do with
    the plan data. -/
structure Leaves.Base (V : View) (env env' : Env) : Prop where
  cfg : env.cfg.UpToSwitches env'.cfg
  beh : ∀ occ m sid layer, env'.beh ⟨env'.inst, env'.op, occ, m, sid, layer⟩ = env.beh ⟨env.inst, env.op, occ, m, sid, layer⟩
  cbEv : ∀ occ m sid layer vis cur pend c,
    V.ψ [.cb ⟨env.inst, env.op, occ, m, sid, layer⟩ vis (observe env m.flavour sid cur pend c)] =
      [.cb ⟨env'.inst, env'.op, occ, m, sid, layer⟩ vis (observe env' m.flavour sid cur pend (V.κ c))]
  actEv : ∀ occ m sid layer a,
    V.ψ [.act ⟨env.inst, env.op, occ, m, sid, layer⟩ a] = [.act ⟨env'.inst, env'.op, occ, m, sid, layer⟩ a]
  log : ∀ s r, V.I s → logEv env' (V.κ s.core) r = V.ψ (logEv env s.core r)
  methodLog : ∀ s sid m, V.I s →
    (if recorded env'.cfg sid m then logEv env' (V.κ s.core) (.method sid m) else []) =
      V.ψ (if recorded env.cfg sid m then logEv env s.core (.method sid m) else [])
  record : ∀ cur p, V.π (if env.cfg.history then cur else p) = if env'.cfg.history then cur else V.π p

structure Leaves (V : View) (env env' : Env) : Prop extends Leaves.Base V env env' where
  /-- what user code does: the same actions are permitted and have the same effect -/
  perm : ∀ k fl sid, ∀ a ∈ env.beh k, permitted env'.cfg fl sid a = permitted env.cfg fl sid a
  act : ∀ k sid, ∀ a ∈ env.beh k, Sim V (applyAction env sid a) (applyAction env' sid a)
  /-- the places that read the PLANS / TRANSITION_HISTORY switches -/
  clearTaskStatus : ∀ id, Sim V (modifyCore (clearTaskStatus env.cfg id)) (modifyCore (clearTaskStatus env'.cfg id))
  exitClear : Sim V (modifyCore fun c => if env.cfg.plans then planClearCore c else c)
                    (modifyCore fun c => if env'.cfg.plans then planClearCore c else c)
  wipe : Sim V (modifyCore (wipe env.cfg)) (modifyCore (wipe env'.cfg))

namespace Leaves
variable {V : View} {env env' : Env} (L : Leaves V env env')
include L

theorem injections : env'.cfg.injections = env.cfg.injections := by rw [L.cfg]
theorem observable (sid : Nat) (m : Method) (l : Layer) : observable env'.cfg sid m l = FFSM2.observable env.cfg sid m l := by
  rw [L.cfg]; rfl
theorem substFuel : substFuel env'.cfg.L = FFSM2.substFuel env.cfg.L := by rw [L.cfg]
theorem n : env'.cfg.n = env.cfg.n := by rw [L.cfg]
theorem manual : env'.cfg.manual = env.cfg.manual := by rw [L.cfg]
theorem idOk (d : Nat) : idOk env'.cfg d = FFSM2.idOk env.cfg d := by rw [L.cfg]; rfl
theorem hasPayload : env'.cfg.hasPayload = env.cfg.hasPayload := by rw [L.cfg]
theorem cap : env'.cfg.cap = env.cfg.cap := by rw [L.cfg]

end Leaves

/-- the substitution loop: the same survivor, and the final state and the events as `round` relates them -/
theorem sim_substLoop {V : View} {round round' : Tr → Tr → Step} (hr : ∀ c p, Sim V (round c p) (round' c p)) :
    ∀ (fuel : Nat) (cur : Tr) (s : St), V.I s →
      substLoop round' fuel cur (V.φ s) =
        ((V.φ (substLoop round fuel cur s).1.1, (substLoop round fuel cur s).1.2), V.ψ (substLoop round fuel cur s).2) ∧
      V.I (substLoop round fuel cur s).1.1
  | 0, _, _, hs => ⟨by simp only [substLoop, V.ψ_nil], hs⟩
  | fuel + 1, cur, s, hs => by
    rw [substLoop_succ, substLoop_succ]
    show (if s.core.request.valid then if cur.ne ⟨255, s.core.request.dest, none⟩ then _ else _ else _) = _ ∧ _
    -- the unrolled loop stands in the goal four times: `cases` on its two tests, where `split` is slow
    cases s.core.request.valid
    · exact ⟨congrArg (Prod.mk _) V.ψ_nil.symm, hs⟩
    cases cur.ne ⟨255, s.core.request.dest, none⟩
    · exact sim_substLoop hr fuel cur (dropRequest s) (V.frame s _ hs rfl)
    · obtain ⟨r1, r2⟩ := hr cur s.core.request (takeRequest s) (V.frame s _ hs rfl)
      obtain ⟨i1, i2⟩ := sim_substLoop hr fuel
        (if (round cur s.core.request (takeRequest s)).1.cancelled then cur else s.core.request) _ r2
      refine ⟨?_, i2⟩
      show (let r := round' cur s.core.request (V.φ (takeRequest s))
            let rest := substLoop round' fuel (if r.1.cancelled then cur else s.core.request) r.1
            (rest.1, r.2 ++ rest.2)) = _
      rw [r1]
      show (let rest := substLoop round' fuel
              (if (round cur s.core.request (takeRequest s)).1.cancelled then cur else s.core.request)
              (V.φ (round cur s.core.request (takeRequest s)).1)
            (rest.1, _ ++ rest.2)) = _
      rw [i1]
      exact congrArg (Prod.mk _) (V.ψ_append ..).symm

theorem sim_substThen {V : View} {round round' : Tr → Tr → Step} (hr : ∀ c p, Sim V (round c p) (round' c p)) (fuel : Nat)
    {k k' : Tr → Step} (hk : ∀ t, Sim V (k t) (k' t)) : Sim V (substThen round fuel k) (substThen round' fuel k') := by
  intro s hs
  obtain ⟨l1, l2⟩ := sim_substLoop hr fuel {} s hs
  obtain ⟨k1, k2⟩ := hk (substLoop round fuel {} s).1.2 _ l2
  refine ⟨?_, k2⟩
  simp only [substThen, l1, k1, V.ψ_append]

section walk
variable {V : View} {env env' : Env} (L : Leaves V env env')
include L

theorem sim_runActions (fl : Flavour) (sid occ : Nat) (m : Method) (layer : Layer) (k : Key) :
    ∀ as : List Action, (∀ a ∈ as, a ∈ env.beh k) →
      Sim V (runActions env fl sid ⟨env.inst, env.op, occ, m, sid, layer⟩ as)
            (runActions env' fl sid ⟨env'.inst, env'.op, occ, m, sid, layer⟩ as)
  | [], _ => sim_skip
  | a :: as, h => by
    simp only [runActions]
    rw [L.perm k fl sid a (h a (by simp))]
    refine Sim.seq ?_ (sim_runActions fl sid occ m layer k as fun b hb => h b (by simp [hb]))
    split
    · exact Sim.seq (sim_emit fun _ _ => (L.actEv occ m sid layer a).symm) (L.act k sid a (h a (by simp)))
    · exact sim_skip

theorem sim_layerBody (m : Method) (sid : Nat) (cur pend : Tr) (layer : Layer) (occ : Nat) :
    Sim V (layerBody env m sid cur pend layer occ) (layerBody env' m sid cur pend layer occ) := by
  unfold layerBody
  refine Sim.seq (sim_emit fun s _ => ?_) ?_
  · rw [L.observable]; exact (L.cbEv occ m sid layer _ cur pend s.core).symm
  · rw [L.observable, L.beh]
    split
    · exact sim_runActions L _ sid occ m layer _ _ fun _ h => h
    · exact sim_skip

theorem sim_deliverLayer (m : Method) (sid : Nat) (cur pend : Tr) (layer : Layer) :
    Sim V (deliverLayer env m sid cur pend layer) (deliverLayer env' m sid cur pend layer) := by
  intro s hs
  rw [deliverLayer_eq, deliverLayer_eq]
  exact sim_layerBody L m sid cur pend layer _ { s with seen := (m, sid, layer) :: s.seen }
    (V.frame s _ hs rfl)

theorem sim_deliver (m : Method) (sid : Nat) (cur pend : Tr) :
    Sim V (deliver env m sid cur pend) (deliver env' m sid cur pend) := by
  unfold deliver
  rw [L.injections]
  exact Sim.seq (sim_emit fun s hs => L.methodLog s sid m hs)
    (sim_seqList_map _ fun l _ => sim_deliverLayer L m sid cur pend l)

theorem sim_exitActive (cur : Tr) : Sim V (exitActive env cur) (exitActive env' cur) :=
  sim_reading (fun _ => rfl) fun a => Sim.seq (sim_deliver L .exit a cur {}) (L.clearTaskStatus a)

theorem sim_deepEnter (cur : Tr) : Sim V (deepEnter env cur) (deepEnter env' cur) := by
  rw [deepEnter_eq, deepEnter_eq]
  exact Sim.seq (Sim.seq (sim_reg fun _ => rfl) (sim_deliver L _ _ _ _)) (sim_reading (fun _ => rfl) fun a => sim_deliver L _ a _ _)

theorem sim_deepExit (cur : Tr) : Sim V (deepExit env cur) (deepExit env' cur) := by
  rw [deepExit_eq, deepExit_eq]
  exact Sim.seq (Sim.seq (Sim.seq (sim_exitActive L cur) (sim_deliver L _ _ _ _)) (sim_reg fun _ => rfl)) L.exitClear

theorem sim_changeToRequested (cur : Tr) : Sim V (changeToRequested env cur) (changeToRequested env' cur) := by
  rw [changeToRequested_eq, changeToRequested_eq]
  exact sim_ite (fun s => s.core.requested != s.core.active) (fun _ => rfl)
    (Sim.seq (Sim.seq (sim_exitActive L cur) (sim_reg fun _ => rfl)) (sim_reading (fun _ => rfl) fun a => sim_deliver L _ a _ _))
    (Sim.seq (sim_reg fun _ => rfl) (sim_reading (fun _ => rfl) fun a => sim_deliver L _ a _ _))

theorem sim_finalExit : Sim V (finalExit env) (finalExit env') := by
  rw [finalExit_eq, finalExit_eq]
  exact Sim.seq (sim_deepExit L _) (Sim.seq (sim_reg fun _ => rfl) L.wipe)

theorem sim_guardRound (cur pend : Tr) : Sim V (guardRound env cur pend) (guardRound env' cur pend) := by
  rw [guardRound_eq, guardRound_eq]
  exact Sim.seq (Sim.seq (sim_modify fun s hs => ⟨rfl, V.frame _ _ (V.reset s hs) rfl⟩)
    (sim_reading (fun _ => rfl) fun a => sim_deliver L _ a _ _))
    (sim_ite (fun s => s.cancelled) (fun _ => rfl) sim_skip (sim_reading (fun _ => rfl) fun a => sim_deliver L _ a _ _))

theorem sim_entryGuardRound (cur pend : Tr) : Sim V (entryGuardRound env cur pend) (entryGuardRound env' cur pend) := by
  rw [entryGuardRound_eq, entryGuardRound_eq]
  exact Sim.seq (Sim.seq (sim_modify fun s hs => ⟨rfl, V.frame _ _ (V.reset s hs) rfl⟩) (sim_deliver L _ _ _ _))
    (sim_ite (fun s => s.cancelled) (fun _ => rfl) sim_skip (sim_reading (fun _ => rfl) fun a => sim_deliver L _ a _ _))

theorem sim_applySurvivor (cur : Tr) : Sim V (applySurvivor env cur) (applySurvivor env' cur) :=
  sim_ite (fun _ => cur.valid) (fun _ => rfl)
    (Sim.seq (sim_reg fun _ => rfl) (sim_changeToRequested L cur)) sim_skip

theorem sim_finishProcessing (cur : Tr) : Sim V (finishProcessing env cur) (finishProcessing env' cur) :=
  sim_modifyCore (fun c => by simp only [View.κ, L.record]) fun s hs => V.frame s _ hs rfl

theorem sim_processRequest : Sim V (processRequest env) (processRequest env') := by
  rw [processRequest_eq, processRequest_eq, L.substFuel]
  exact sim_ite (fun s => s.core.request.valid) (fun _ => rfl)
    (sim_substThen (sim_guardRound L) _ fun t => Sim.seq (sim_applySurvivor L t) (sim_finishProcessing L t))
    (sim_finishProcessing L {})

theorem sim_enterSurvivor (cur : Tr) : Sim V (enterSurvivor env cur) (enterSurvivor env' cur) := by
  unfold enterSurvivor
  exact Sim.seq (Sim.seq (sim_modifyCore (fun c => by simp only [View.κ, L.record]) fun s hs => V.frame s _ hs rfl)
    (sim_deepEnter L cur)) (sim_reg fun _ => rfl)

theorem sim_initialEnter : Sim V (initialEnter env) (initialEnter env') := by
  rw [initialEnter_eq, initialEnter_eq, L.substFuel]
  simp only [applyRequest_fst]
  exact Sim.seq (Sim.seq (sim_reg fun _ => rfl) (sim_entryGuardRound L {} {}))
    (sim_substThen (sim_entryGuardRound L) _ (sim_enterSurvivor L))

theorem sim_phase (m : Method) (hf : Bool) : Sim V (phase env m hf) (phase env' m hf) := by
  rw [phase_eq, phase_eq]
  have sub : ∀ a, Sim V (deliver env m a {} {} ⋙ modify fun s => { s with core := { s.core with subStatus := s.core.subStatus.or s.ts } })
      (deliver env' m a {} {} ⋙ modify fun s => { s with core := { s.core with subStatus := s.core.subStatus.or s.ts } }) :=
    fun a => Sim.seq (sim_deliver L m a {} {}) (sim_modify fun s hs => ⟨rfl, V.accum s hs⟩)
  refine sim_reading (fun _ => rfl) fun a => Sim.seq ?_ (sim_modify fun s hs => ⟨rfl, V.reset s hs⟩)
  cases hf
  · exact Sim.seq (sub a) (sim_deliver L m 255 {} {})
  · exact Sim.seq (sim_deliver L m 255 {} {}) (sub a)

theorem sim_cycle (hplan : Sim V (if env.cfg.plans then planStep env else skip) (if env'.cfg.plans then planStep env' else skip))
    (pre mid post : Method) : Sim V (cycle env pre mid post) (cycle env' pre mid post) := by
  unfold cycle
  exact Sim.seq (Sim.seq (Sim.seq (Sim.seq (Sim.seq (sim_modify fun s hs => ⟨rfl, V.reset s hs⟩) (sim_phase L _ _))
    (sim_phase L _ _)) (sim_phase L _ _)) hplan) (sim_processRequest L)

theorem sim_query : Sim V (query env) (query env') := by
  rw [query_eq, query_eq]
  refine sim_reading (fun _ => rfl) fun a => ?_
  cases headFirst .query
  · exact Sim.seq (sim_deliver L _ _ _ _) (sim_deliver L _ _ _ _)
  · exact Sim.seq (sim_deliver L _ _ _ _) (sim_deliver L _ _ _ _)

theorem sim_extChange (d : Nat) (p : Option Nat) : Sim V (extChange env d p) (extChange env' d p) := fun s hs =>
  ⟨Prod.ext rfl (L.log s _ hs), V.frame s _ hs rfl⟩

theorem sim_loadActive (r : Nat) : Sim V (loadActive env r) (loadActive env' r) := by
  rw [loadActive_eq, loadActive_eq]
  exact Sim.seq (Sim.seq (sim_reg fun _ => rfl) L.wipe) (sim_changeToRequested L {})

theorem sim_load (buf : List Nat) : Sim V (load env buf) (load env' buf) := by
  rw [load_eq, load_eq, L.n, L.manual]
  exact sim_ite (fun _ => (BitStream.read 1 buf 0).1 != 0) (fun _ => rfl)
    (sim_ite (fun s => s.core.active != 255) (fun _ => rfl) (sim_loadActive L _)
      (sim_ite (fun _ => env.cfg.manual) (fun _ => rfl) (Sim.seq (sim_reg fun _ => rfl) (sim_deepEnter L {})) sim_skip))
    (sim_ite (fun s => env.cfg.manual && s.core.active != 255) (fun _ => rfl) (sim_finalExit L) sim_skip)

/-- the replay calls write the recorded transition outright: for views that keep it -/
theorem sim_replayTransition (hπ : ∀ t, V.π t = t) (d : Nat) : Sim V (replayTransition env d) (replayTransition env' d) := by
  unfold replayTransition
  simp only [applyRequest_fst]
  exact Sim.seq (Sim.seq (Sim.seq (sim_modifyCore (fun c => by simp only [View.κ, hπ]) fun s hs => V.frame s _ hs rfl)
    (sim_modifyCore (fun c => by simp only [View.κ, hπ]) fun s hs => V.frame s _ hs rfl)) (sim_changeToRequested L {}))
    (sim_reg fun _ => rfl)

theorem sim_replayEnter (hπ : ∀ t, V.π t = t) (d : Nat) : Sim V (replayEnter env d) (replayEnter env' d) := by
  unfold replayEnter
  simp only [applyRequest_fst]
  exact Sim.seq (Sim.seq (sim_modifyCore (fun c => by simp only [View.κ, hπ]) fun s hs => V.frame s _ hs rfl)
    (sim_deepEnter L {})) (sim_reg fun _ => rfl)

end walk
/-! ### views whose invariant ignores the plan data

For them the plan step, the task reports and the plan edits are no different from anything else. -/

/-- the invariant reads nothing but the logger flag -/
def View.Agnostic (V : View) : Prop := ∀ s s', V.I s → s'.core.logger = s.core.logger → V.I s'

/-- a view without invariant: all of them but the PLANS view -/
def View.free (ℓ : Bool → Bool) (π : Tr → Tr) (ψ : List Ev → List Ev) (ψ_nil : ψ [] = [])
    (ψ_append : ∀ a b, ψ (a ++ b) = ψ a ++ ψ b) : View :=
  { I := fun _ => True, ℓ, π, ψ, ψ_nil, ψ_append, frame := fun _ _ _ _ => trivial, reset := fun _ _ => trivial,
    accum := fun _ _ => trivial }

theorem View.free_agnostic {ℓ π ψ} (h0 h1) : (View.free ℓ π ψ h0 h1).Agnostic := fun _ _ _ _ => trivial

section agnostic
variable {V : View} {env env' : Env} (hag : V.Agnostic)
  (hlog : ∀ s r, V.I s → logEv env' (V.κ s.core) r = V.ψ (logEv env s.core r))
include hag hlog

theorem sim_extStatus (id : Nat) (ok : Bool) : Sim V (extStatus env id ok) (extStatus env' id ok) := fun s hs =>
  ⟨Prod.ext (by cases ok <;> rfl) (hlog s _ hs), hag s _ hs (by cases ok <;> rfl)⟩

theorem sim_firePlan : ∀ (tasks : List Task) (s : St) (clr : List Nat), V.I s →
    firePlan env' tasks (V.φ s) clr =
      ((V.φ (firePlan env tasks s clr).1.1, (firePlan env tasks s clr).1.2), V.ψ (firePlan env tasks s clr).2) ∧
    V.I (firePlan env tasks s clr).1.1
  | [], _, _, hs => ⟨by simp only [firePlan, V.ψ_nil], hs⟩
  | t :: ts, s, clr, hs => by
    rw [firePlan_cons, firePlan_cons]
    show (if ctlIsActive s.core t.origin then if getBit s.core.succ t.origin then _ else _ else _) = _ ∧ _
    -- as in `sim_substLoop`: `cases` on the two tests, where `split` is slow
    cases ctlIsActive s.core t.origin
    · exact ⟨congrArg (Prod.mk _) V.ψ_nil.symm, hs⟩
    cases getBit s.core.succ t.origin
    · obtain ⟨i1, i2⟩ := sim_firePlan ts s clr hs
      exact ⟨by rw [i1]; rfl, i2⟩
    · have e : fireTask t (V.φ s) = V.φ (fireTask t s) := by unfold fireTask; cases t.origin == t.dest <;> rfl
      obtain ⟨i1, i2⟩ := sim_firePlan ts (fireTask t s) (if t.origin == t.dest then clr else t.origin :: clr)
        (hag s _ hs (by unfold fireTask; cases t.origin == t.dest <;> rfl))
      refine ⟨?_, i2⟩
      show (let r := firePlan env' ts (fireTask t (V.φ s)) _; (r.1, logEv env' (V.κ s.core) _ ++ r.2)) = _
      rw [e, i1, hlog s _ hs]
      exact congrArg (Prod.mk _) (V.ψ_append ..).symm

end agnostic

theorem sim_planStep {V : View} {env env' : Env} (hag : V.Agnostic) (L : Leaves V env env')
    (plans : env'.cfg.plans = env.cfg.plans) :
    Sim V (if env.cfg.plans then planStep env else skip) (if env'.cfg.plans then planStep env' else skip) := by
  have out : ∀ st m, Sim V (planOutcome env st m) (planOutcome env' st m) := fun st m =>
    Sim.seq (Sim.seq (sim_modify fun s hs => ⟨rfl, hag s _ hs rfl⟩) (sim_deliver L m 255 {} {}))
      (sim_modifyCore (fun _ => rfl) fun s hs => hag s _ hs rfl)
  have fire : Sim V (fireStep env) (fireStep env') := fun s hs => by
    obtain ⟨f1, f2⟩ := sim_firePlan hag L.log s.core.plan s [] hs
    have f1' : firePlan env' (V.φ s).core.plan (V.φ s) [] = _ := f1
    exact ⟨by simp only [fireStep, f1']; rfl, hag _ _ f2 rfl⟩
  rw [plans]
  split
  · rw [planStep_eq, planStep_eq]
    exact Sim.seq (sim_ite (fun s => cycleStatus s != .none && s.core.planExists) (fun _ => rfl)
        (sim_ite (fun s => cycleStatus s == .failure) (fun _ => rfl) (out _ _)
          (sim_ite (fun s => !s.core.plan.isEmpty) (fun _ => rfl) fire (out _ _)))
        sim_skip)
      (sim_modifyCore (fun _ => rfl) fun s hs => hag s _ hs rfl)
  · exact sim_skip

/-- the actions that belong to the PLANS feature: task reports and plan edits -/
def Action.isPlan : Action → Bool
  | .succeed _ | .fail _ | .planAppend .. | .planClear | .planRemove _ => true
  | _ => false

/-- any action, under any control flavour or from outside; a plan action needs the invariant to ignore the plan data -/
theorem sim_applyAction {V : View} {env env' : Env} (sid : Nat) (a : Action) (hag : a.isPlan = true → V.Agnostic)
    (hlog : ∀ s r, V.I s → logEv env' (V.κ s.core) r = V.ψ (logEv env s.core r)) (hcap : env'.cfg.cap = env.cfg.cap) :
    Sim V (applyAction env sid a) (applyAction env' sid a) := by
  intro s hs
  cases a with
  | planAppend o d p =>
    rw [applyAction_planAppend, applyAction_planAppend, hcap, V.ψ_nil]
    exact ⟨rfl, hag rfl s _ hs rfl⟩
  | planClear => exact ⟨by simp only [applyAction, V.ψ_nil]; rfl, hag rfl s _ hs rfl⟩
  | planRemove m => exact ⟨by simp only [applyAction, V.ψ_nil]; rfl, hag rfl s _ hs rfl⟩
  | succeed id => exact ⟨Prod.ext rfl (hlog s _ hs), hag rfl s _ hs rfl⟩
  | fail id => exact ⟨Prod.ext rfl (hlog s _ hs), hag rfl s _ hs rfl⟩
  | _ => exact ⟨Prod.ext rfl (hlog s _ hs), V.frame s _ hs rfl⟩


/-- the method record of a delivery is a log record like any other, unless the view changes VERBOSE_DEBUG_LOG -/
theorem methodLog_of_log {V : View} {env env' : Env} (hv : env'.cfg.verbose = env.cfg.verbose)
    (cfg : env.cfg.UpToSwitches env'.cfg)
    (log : ∀ s r, V.I s → logEv env' (V.κ s.core) r = V.ψ (logEv env s.core r)) (s : St) (sid : Nat) (m : Method)
    (hs : V.I s) :
    (if recorded env'.cfg sid m then logEv env' (V.κ s.core) (.method sid m) else []) =
      V.ψ (if recorded env.cfg sid m then logEv env s.core (.method sid m) else []) := by
  have : recorded env'.cfg sid m = recorded env.cfg sid m := by rw [cfg, hv]; rfl
  rw [this]
  split
  · exact log s _ hs
  · exact V.ψ_nil.symm

/-- `Leaves` of a view whose invariant ignores the plan data, between environments that agree on PLANS: actions,
    `clearTaskStatus` and `plan.clear()` need nothing beyond that -/
theorem leaves_of_agnostic {V : View} {env env' : Env} (hag : V.Agnostic) (B : Leaves.Base V env env')
    (plans : env'.cfg.plans = env.cfg.plans) (wipeκ : ∀ c, wipe env'.cfg (V.κ c) = V.κ (wipe env.cfg c)) : Leaves V env env' where
  toBase := B
  perm := fun _ fl sid a _ => by rw [B.cfg, plans]; cases a <;> rfl
  act := fun _ sid a _ => sim_applyAction sid a (fun _ => hag) B.log (by rw [B.cfg])
  clearTaskStatus := fun id => sim_modifyCore (fun c => by rw [B.cfg, plans, clearTaskStatus_eq, clearTaskStatus_eq]; rfl) fun s hs =>
    hag s _ hs (by rw [clearTaskStatus_eq])
  exitClear := sim_modifyCore (fun c => by rw [plans]; split <;> rfl) fun s hs => hag s _ hs (by split <;> rfl)
  wipe := sim_modifyCore wipeκ fun s hs => hag s _ hs (wipe_logger ..)


end FFSM2
