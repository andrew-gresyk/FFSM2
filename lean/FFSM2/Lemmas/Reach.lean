import FFSM2.Lemmas.Keeps
import FFSM2.Lemmas.World
import FFSM2.Props.C12
/-! Every core reachable by any history satisfies the range invariant `CoreOk` (ids handed to user code
    name real states, the plan is within capacity). -/
namespace FFSM2
open Step BitStream

def WorldOk (cfg : Cfg) (w : World) : Prop := w.All (CoreOk cfg)

theorem coreOk_init (cfg : Cfg) (lg : Bool) : CoreOk cfg (initCore cfg lg) :=
  ⟨Or.inr rfl, Or.inr rfl, Or.inr rfl, (by intro t ht; cases ht), Nat.zero_le _⟩

/-- `load` of what `save` wrote for a well-formed source keeps the invariant: the decoded id is the
    source's active state (C12 round trip), hence a real state -/
theorem keeps_load (env : Env) (hwf : env.cfg.WF) (sc : Core) (hsc : CoreOk env.cfg sc)
    (hm : env.cfg.manual = true ∨ sc.active ≠ 255) : Keeps (CoreOk env.cfg) (load env (save env.cfg sc)) := by
  intro s h
  rcases hsc.active with ha | ha
  · rw [load_save_active env hwf sc ha]
    split
    · exact keeps_loadActive env _ (Or.inl ha) s h
    · split
      · exact Keeps.seq (keeps_modifyCore fun c hc => hc.registry hc.active (.inl ha) hc.request) (keeps_deepEnter env _) s h
      · exact h
  · rw [load_save_inactive env hwf (hm.resolve_right fun h => h ha) sc ha]
    split
    · exact keeps_finalExit env s h
    · exact h

theorem apiStep_keeps {w : World} {env : Env} (hwf : env.cfg.WF) (hw : WorldOk env.cfg w) {tag : ApiTag} {slot : Option Core} {c : Core} {f : Step}
    (h : ApiStep env.cfg w env tag slot c f) : Keeps (CoreOk env.cfg) f := by
  cases h with
  | constructManual lg => exact keeps_skip _
  | constructAuto | enter => exact keeps_initialEnter env hwf.n_pos
  | exit => exact keeps_finalExit env
  | update | react => exact keeps_cycle env _ _ _
  | query => exact keeps_query env
  | change c d p _ hd => exact keeps_extChange env d hd p
  | immediate c d p _ hd => exact Keeps.seq (keeps_extChange env d hd p) (keeps_processRequest env)
  | status c id ok => exact keeps_extStatus env id ok
  | planAppend c o d p hp | planEdit c a _ hp => exact keeps_applyAction env .plan 255 0 _ hp
  | load c sc src hsrc hm => exact keeps_load env hwf sc (hw src sc hsrc) (hm.imp_right And.right)
  | replayEnter c d _ _ _ hd => exact keeps_replayEnter env d hd
  | replayClear | attachLogger => exact keeps_modifyCore fun _ h => h.congr rfl
  | replayTransition c d _ _ hd => exact keeps_replayTransition env d hd

theorem stepAll_worldOk (cfg : Cfg) (hwf : cfg.WF) (beh : Beh) (w : World) (k : Nat) (op : Op) (hw : WorldOk cfg w) :
    WorldOk cfg (stepAll cfg beh w k op).1 :=
  stepAll_all cfg beh k op hw fun hf hc => apiStep_keeps (env := ⟨cfg, beh, op.inst, k⟩) hwf hw hf _ (hf.start_of (coreOk_init cfg) hc)

/-- **reachability invariant**: after any history whatsoever, every instance's registry, outstanding
    request and plan name real states, and the plan is within the configured capacity -/
theorem run_worldOk (cfg : Cfg) (hwf : cfg.WF) (beh : Beh) (ops : List Op) : WorldOk cfg (run cfg beh ops).1 :=
  runFrom_inv cfg beh (stepAll_worldOk cfg hwf beh) ops 0 [] (World.All.nil _)

end FFSM2
