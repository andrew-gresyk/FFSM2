import FFSM2.Lemmas.SimWorld
/-!
# Log-blindness of the switches: compiling LOG_INTERFACE / VERBOSE_DEBUG_LOG in or out changes nothing for a program
# that never attaches a logger

`cfgL l v cfg` is `cfg` with the two logging switches set to `l` / `v`.  `logView`: from every state without a
logger the second run (switches changed) is the first, and no logger appears.  (What an attached logger changes is
`Lemmas/Blind.lean`: log records only.)
-/
namespace FFSM2
open Step Ancestors

def cfgL (l v : Bool) (cfg : Cfg) : Cfg := { cfg with logging := l, verbose := v }
def envL (l v : Bool) (env : Env) : Env := { env with cfg := cfgL l v env.cfg }

theorem envL_mk (l v : Bool) (cfg : Cfg) (beh : Beh) (i k : Nat) : (⟨cfgL l v cfg, beh, i, k⟩ : Env) = envL l v ⟨cfg, beh, i, k⟩ := rfl

def WorldNoLog (w : World) : Prop := ∀ i c, w.get i = some c → c.logger = false

theorem worldNoLog_nil : WorldNoLog [] := World.All.nil _

def logView : View where
  I s := s.core.logger = false
  ℓ b := b
  π t := t
  ψ es := es
  ψ_nil := rfl
  ψ_append _ _ := rfl
  frame _ _ hs h := (congrArg (fun k => k.2.2.2.2.2.1) h).trans hs
  reset _ hs := hs
  accum _ hs := hs

theorem logView_κ (c : Core) : logView.κ c = c := rfl

theorem logView_agnostic : logView.Agnostic := fun _ _ hs h => h.trans hs

theorem logEv_nologger (env : Env) (c : Core) (r : LogRec) (h : c.logger = false) : logEv env c r = [] := by
  simp [logEv, h]

theorem log_lifts (l v : Bool) (cfg : Cfg) (beh : Beh) : Lifts logView cfg (cfgL l v cfg) beh beh :=
  lifts_of_agnostic logView_agnostic rfl
    (fun _ _ => leaves_of_agnostic logView_agnostic
      { cfg := rfl, beh := fun _ _ _ _ => rfl, cbEv := fun _ _ _ _ _ _ _ _ => rfl, actEv := fun _ _ _ _ _ => rfl,
        log := fun s r hs => (logEv_nologger _ _ r hs).trans (logEv_nologger _ _ r hs).symm,
        methodLog := fun s sid m hs => by
          rw [logEv_nologger _ s.core _ hs, logEv_nologger _ (logView.κ s.core) _ hs]; simp only [ite_self]; rfl,
        record := fun _ _ => rfl }
      -- with `logView.κ` left in, `rfl` compares the two cores field by field
      rfl fun c => by rw [logView_κ, logView_κ]; rfl)
    fun _ => ⟨fun _ _ _ _ _ => rfl, fun _ _ => rfl⟩

/-- the calls that use the feature (attaching a logger, constructing with one) are not covered -/
theorem log_covers (l v : Bool) (cfg : Cfg) {op : Op} (hop : op.usesLogging = false) : Covers logView cfg (cfgL l v cfg) op where
  plans _ := ⟨rfl, logView_agnostic⟩
  history _ := ⟨rfl, fun _ => rfl⟩
  serialization _ := rfl
  construct i lg e := by
    subst e
    have : lg = false := hop
    subst this
    exact ⟨rfl, rfl⟩
  attach i on e := by subst e; cases hop

/-- **whole histories** in which no logger is ever attached -/
theorem runFrom_L (l v : Bool) (cfg : Cfg) (beh : Beh) : ∀ (ops : List Op) (w : World) (k : Nat), WorldNoLog w →
    (∀ op ∈ ops, op.usesLogging = false) →
    runFrom (cfgL l v cfg) beh w k ops = runFrom cfg beh w k ops ∧
    WorldNoLog (runFrom cfg beh w k ops).1 := fun ops w k hw hops => by
  have h := runFrom_sim (log_lifts l v cfg beh) ops k hw fun op ho => log_covers l v cfg (hops op ho)
  simp only [World.image_id logView.κ logView_κ] at h
  exact h

end FFSM2
