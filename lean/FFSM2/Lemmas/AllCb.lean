import FFSM2.Lemmas.Delivery
/-! "Every callback delivery of this step satisfies P" — a compositional predicate on steps. -/
namespace FFSM2
open Step Ancestors

def AllCb (P : Key → Bool → Obs → Prop) (f : Step) : Prop :=
  ∀ s, ∀ e ∈ (f s).2, ∀ k vis o, e = Ev.cb k vis o → P k vis o

/-- every delivery of `deliver env m sid cur pend` is to `sid`, of method `m`, and observes through
    `observe` with exactly these `cur` / `pend` -/
theorem allCb_deliver {P : Key → Bool → Obs → Prop} (env : Env) (m : Method) (sid : Nat) (cur pend : Tr)
    (h : ∀ (layer : Layer) (occ : Nat) (c : Core),
      P ⟨env.inst, env.op, occ, m, sid, layer⟩ (observable env.cfg sid m layer) (observe env m.flavour sid cur pend c)) :
    AllCb P (deliver env m sid cur pend) :=
  deliver_forall (P := fun e => ∀ k vis o, e = Ev.cb k vis o → P k vis o) (fun _ _ _ hk => by cases hk)
    (fun layer occ c _ _ _ hk => by cases hk; exact h layer occ c) (fun _ _ _ hf _ _ _ hk => by cases hf <;> cases hk)

/-- above `deliver`: enough to have `P` of the deliveries in `A` (see `Made`) -/
theorem Emits.allCb {P : Key → Bool → Obs → Prop} {env : Env} {A : Method → Nat → Tr → Tr → Prop} {f : Step}
    (h : ∀ m sid cur pend, A m sid cur pend → ∀ (layer : Layer) (occ : Nat) (c : Core),
      P ⟨env.inst, env.op, occ, m, sid, layer⟩ (observable env.cfg sid m layer) (observe env m.flavour sid cur pend c))
    (hf : Emits env A f) : AllCb P f := fun s =>
  (hf s).forall (fun m sid cur pend s hA => allCb_deliver env m sid cur pend (h m sid cur pend hA) s) fun _ _ _ =>
    forall_mem_logEv fun _ _ _ hk => nomatch hk

end FFSM2
