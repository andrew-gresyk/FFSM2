import FFSM2.Machine
/-!
# What one API call does to the instance it is made on

`step` / `stepAll` decide from the call and the slot of its instance (for `load`, `copy` and the replica calls also
the source's slot) whether the call is accepted and which step it runs from which core; everything else they do is
bookkeeping that is the same for every call.  `effect` is the decision, `Effect.realize` the bookkeeping, and
`stepAll_eq` says that is all there is.  Statements that compare two runs compare effects.
-/
namespace FFSM2
open Step

inductive Effect where
  /-- out of contract: nothing happens -/
  | reject
  /-- `onCore`: run `f` from `c`, store the resulting core, observe it with the call's result `ret` -/
  | run (c : Core) (f : Step) (ret : Core → Option Bool)
  /-- destruction: run `f` from `c`, observe, free the slot -/
  | gone (c : Core) (f : Step)
  /-- `save`: observe `c` together with the bytes written -/
  | peek (c : Core) (bytes : List Nat)
  /-- copy construction: the slot receives `c` -/
  | put (c : Core)

/-- what the call stores in the slot of its instance (`none`: the slot is left alone) -/
def Effect.write : Effect → Option (Option Core)
  | .reject | .peek .. => none
  | .run c f _ => some (some (f { core := c }).1.core)
  | .gone .. => some none
  | .put c => some (some c)

/-- the events of the call: those of the step it runs, then the call's own `api` / `rejected` event -/
def Effect.events (cfg : Cfg) (i k : Nat) (name : String) : Effect → List Ev
  | .reject => [.rejected i k name]
  | .run c f ret => (f { core := c }).2 ++ [.api i k name (apiObs cfg (f { core := c }).1.core (ret (f { core := c }).1.core))]
  | .gone c f => (f { core := c }).2 ++ [.api i k name (apiObs cfg (f { core := c }).1.core)]
  | .peek c bytes => [.api i k name (apiObs cfg c none (some bytes))]
  | .put c => [.api i k name (apiObs cfg c)]

def Effect.realize (cfg : Cfg) (w : World) (i k : Nat) (name : String) (e : Effect) : World × List Ev :=
  (match e.write with | none => w | some x => w.put i x, e.events cfg i k name)

/-- a call on an existing instance under its guard: run `f` from `c` if `g`, reject otherwise -/
def Effect.guarded (g : Bool) (c : Core) (f : Step) (ret : Core → Option Bool := fun _ => none) : Effect :=
  if g then .run c f ret else .reject

/-- the effect of `step`: `slot` is what the slot of the call's instance holds -/
def effect (env : Env) (w : World) : Op → (slot : Option Core) → Effect
  | .construct _ lg, none =>
      if env.cfg.manual then .run (initCore env.cfg (lg && env.cfg.logging)) skip fun _ => none
      else .run (initCore env.cfg (lg && env.cfg.logging)) (initialEnter env) fun _ => none
  | .construct .., some _ => .reject
  | _, none => .reject
  | .destroy _, some c => if env.cfg.manual then .gone c skip else .gone c (finalExit env)
  | .copy .., some _ => .reject
  | .enter _, some c => .guarded (env.cfg.manual && !(c.active != 255) && !c.request.valid) c (initialEnter env)
  | .exit _, some c => .guarded (env.cfg.manual && c.active != 255) c (finalExit env)
  | .update _, some c => .guarded (c.active != 255) c (update env)
  | .react _, some c => .guarded (c.active != 255) c (react env)
  | .query _, some c => .guarded (c.active != 255) c (query env)
  | .changeTo _ d, some c => .guarded (c.active != 255 && idOk env.cfg d) c (extChange env d none)
  | .changeWith _ d p, some c =>
      .guarded (c.active != 255 && idOk env.cfg d && env.cfg.hasPayload) c (extChange env d (some p))
  | .immediateChangeTo _ d, some c =>
      .guarded (c.active != 255 && idOk env.cfg d) c (extChange env d none ⋙ processRequest env)
  | .immediateChangeWith _ d p, some c =>
      .guarded (c.active != 255 && idOk env.cfg d && env.cfg.hasPayload) c (extChange env d (some p) ⋙ processRequest env)
  | .succeed _ id, some c => .guarded (env.cfg.plans && idOk env.cfg id) c (extStatus env id true)
  | .fail _ id, some c => .guarded (env.cfg.plans && idOk env.cfg id) c (extStatus env id false)
  | .planAppend _ o d p, some c =>
      .guarded (permitted env.cfg .plan 0 (.planAppend o d p)) c (applyAction env 255 (.planAppend o d p))
        fun c' => some (c'.plan.length != c.plan.length)
  | .planClear _, some c => .guarded env.cfg.plans c (applyAction env 255 .planClear)
  | .planRemove _ mask, some c => .guarded env.cfg.plans c (applyAction env 255 (.planRemove mask))
  | .save _, some c =>
      if env.cfg.serialization && (env.cfg.manual || c.active != 255) then .peek c (save env.cfg c) else .reject
  | .load _ src, some c =>
      match w.get src with
      | some sc =>
        .guarded (env.cfg.serialization && (env.cfg.manual || (c.active != 255 && sc.active != 255))) c
          (load env (save env.cfg sc))
      | none => .reject
  | .replayEnter _ d, some c =>
      .guarded (env.cfg.history && env.cfg.manual && !(c.active != 255) && !c.request.valid && !c.prev.valid && idOk env.cfg d)
        c (replayEnter env d)
  | .replayTransition _ d, some c =>
      if env.cfg.history && c.active != 255 && (idOk env.cfg d || d == 255) then
        if d == 255 then .run c (modifyCore fun c => { c with prev := c.prev.clear }) fun _ => some false
        else .run c (replayTransition env d) fun _ => some true
      else .reject
  | .attachLogger _ on, some c => .guarded env.cfg.logging c (modifyCore fun c => { c with logger := on })
  | .replayFrom .., some _ => .reject
  | .replayEnterFrom .., some _ => .reject

theorem Effect.realize_ite (cfg : Cfg) (w : World) (i k : Nat) (name : String) (g : Prop) [Decidable g] (a b : Effect) :
    (if g then a else b).realize cfg w i k name = if g then a.realize cfg w i k name else b.realize cfg w i k name :=
  apply_ite ..

theorem Effect.realize_guarded (cfg : Cfg) (w : World) (i k : Nat) (name : String) (g : Bool) (c : Core) (f : Step)
    (ret : Core → Option Bool) :
    (Effect.guarded g c f ret).realize cfg w i k name =
      if g then onCore cfg w i k name c f ret else (w, [.rejected i k name]) := by
  cases g <;> rfl

theorem effect_none (env : Env) (w : World) {op : Op} (h : ∀ i lg, op = .construct i lg → False) :
    effect env w op none = .reject := by
  cases op <;> first | rfl | exact absurd rfl (h _ _)

theorem step_eq (cfg : Cfg) (beh : Beh) (w : World) (k : Nat) (op : Op) :
    step cfg beh w k op =
      (effect ⟨cfg, beh, op.inst, k⟩ w op (w.get op.inst)).realize cfg w op.inst k op.name := by
  unfold step
  dsimp only
  split <;> rename_i h <;> rw [h]
  case h_3 hne => rw [effect_none _ _ hne]; rfl
  case h_21 src _ =>
    show _ = Effect.realize _ _ _ _ _ (match w.get src with | some sc => _ | none => _)
    cases w.get src
    · rfl
    · exact (Effect.realize_guarded ..).symm
  all_goals simp only [effect, Effect.realize_ite, Effect.realize_guarded]
  all_goals rfl

/-- an effect that starts from a core satisfying `Q` and runs a step satisfying `C`, if it runs one -/
inductive Effect.Holds (Q : Core → Prop) (C : Step → Prop) : Effect → Prop
  | reject : Effect.Holds Q C .reject
  | run {c : Core} {f : Step} {ret : Core → Option Bool} : Q c → C f → Effect.Holds Q C (.run c f ret)
  | gone {c : Core} {f : Step} : Q c → C f → Effect.Holds Q C (.gone c f)
  | peek {c : Core} {bytes : List Nat} : Q c → Effect.Holds Q C (.peek c bytes)
  | put {c : Core} : Q c → Effect.Holds Q C (.put c)

theorem Effect.Holds.ite {Q : Core → Prop} {C : Step → Prop} {g : Bool} {a b : Effect} (ha : Effect.Holds Q C a)
    (hb : Effect.Holds Q C b) : Effect.Holds Q C (if g then a else b) := by
  cases g
  · exact hb
  · exact ha

theorem Effect.Holds.guarded {Q : Core → Prop} {C : Step → Prop} {g : Bool} {c : Core} {f : Step}
    {ret : Core → Option Bool} (hc : Q c) (hf : C f) : Effect.Holds Q C (.guarded g c f ret) :=
  .ite (.run hc hf) .reject

/-- the effect of `stepAll`: copy construction and the replica calls read the source's slot -/
def effectAll (env : Env) (w : World) : Op → Effect
  | .copy i src =>
    match w.get i, w.get src with
    | none, some sc => .put sc
    | _, _ => .reject
  | .replayFrom i src =>
    match w.get src with
    | some sc => effect env w (.replayTransition i (if env.cfg.history then sc.prev.canon.dest else 255)) (w.get i)
    | none => .reject
  | .replayEnterFrom i src =>
    match w.get src with
    | some sc => effect env w (.replayEnter i (if env.cfg.history && sc.prev.valid then sc.prev.dest else 0)) (w.get i)
    | none => .reject
  | op => effect env w op (w.get op.inst)

theorem stepAll_eq (cfg : Cfg) (beh : Beh) (w : World) (k : Nat) (op : Op) :
    stepAll cfg beh w k op = (effectAll ⟨cfg, beh, op.inst, k⟩ w op).realize cfg w op.inst k op.name := by
  have h := step_eq cfg beh w k op
  cases op with
  | copy i src =>
    show (match w.get i, w.get src with | none, some sc => _ | _, _ => _) =
      Effect.realize _ _ _ _ _ (match w.get i, w.get src with | none, some sc => .put sc | _, _ => .reject)
    cases w.get i <;> cases w.get src <;> rfl
  | replayFrom i src | replayEnterFrom i src =>
    show (match w.get src with | some sc => _ | none => _) =
      Effect.realize _ _ _ _ _ (match w.get src with | some sc => _ | none => .reject)
    cases w.get src
    · rfl
    · exact step_eq ..
  | _ => exact h

end FFSM2
