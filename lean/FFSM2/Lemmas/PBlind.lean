import FFSM2.Lemmas.SimWorld
/-!
# Plan-blindness: compiling PLANS out changes nothing for a program that never touches a plan

`envP env` / `cfgP cfg` is the build with the feature switched off.  A state is `Idle` when nothing of the feature is
outstanding: no task, no `planExists`, no success / failure report, no accumulated status.  `planView`: from every
idle state the second run (feature off) does exactly what the first does — the same state, the same events up to
the plan view the feature adds to observations — and the state stays idle.  It holds for every step of the model
when the callbacks perform no plan action (`PlanFree`): on an idle state the feature's bookkeeping
(`clearTaskStatus`, `plan.clear()`, `planData.clear()`, the plan step) changes nothing.
-/
namespace FFSM2
open Step Ancestors

def cfgP (cfg : Cfg) : Cfg := { cfg with plans := false }
def envP (env : Env) : Env := { env with cfg := cfgP env.cfg }

/-- user code never reports a task status and never edits a plan -/
def PlanFree (beh : Beh) : Prop := ∀ key, ∀ a ∈ beh key, a.isPlan = false

def planPart (s : St) : List Task × Bool × List Bool × List Bool × Status × Status :=
  (s.core.plan, s.core.planExists, s.core.succ, s.core.fail, s.core.subStatus, s.ts)

def IdleP (p : List Task × Bool × List Bool × List Bool × Status × Status) : Prop :=
  p.1 = [] ∧ p.2.1 = false ∧ (∀ b ∈ p.2.2.1, b = false) ∧ (∀ b ∈ p.2.2.2.1, b = false) ∧
  p.2.2.2.2.1 = Status.none ∧ p.2.2.2.2.2 = Status.none

/-- nothing of the plan feature is outstanding -/
def Idle (s : St) : Prop := IdleP (planPart s)

theorem idle_of_eq {s s' : St} (h : planPart s' = planPart s) (hi : Idle s) : Idle s' := by
  unfold Idle; rw [h]; exact hi

/-- an event with the plan view of its observation blanked -/
def Ev.noPlan : Ev → Ev
  | .cb k v o => .cb k v { o with plan := none }
  | .api i k name o => .api i k name { o with plan := none }
  | e => e

def noPlan (es : List Ev) : List Ev := es.map Ev.noPlan

@[simp] theorem noPlan_nil : noPlan [] = [] := rfl
@[simp] theorem noPlan_append (a b : List Ev) : noPlan (a ++ b) = noPlan a ++ noPlan b := by simp [noPlan]

def PB (f f' : Step) : Prop := ∀ s, Idle s → f' s = ((f s).1, noPlan (f s).2) ∧ Idle (f s).1

theorem pb_modify {m : St → St} (h : ∀ s, planPart (m s) = planPart s) : PB (Step.modify m) (Step.modify m) :=
  fun s hs => ⟨rfl, idle_of_eq (h s) hs⟩

theorem noPlan_logEv (env : Env) (c : Core) (r : LogRec) : noPlan (logEv env c r) = logEv env c r := by
  unfold logEv; split <;> rfl

theorem observe_P (env : Env) (fl : Flavour) (sid : Nat) (cur pend : Tr) (c : Core) :
    observe (envP env) fl sid cur pend c = { observe env fl sid cur pend c with plan := none } := rfl

/-! ### idle states absorb the feature's bookkeeping -/

theorem set_false_of_all_false (l : List Bool) (i : Nat) (h : ∀ b ∈ l, b = false) : l.set i false = l := by
  rw [List.eq_replicate_of_mem h]; exact List.set_replicate_self

theorem map_false_of_all_false (l : List Bool) (h : ∀ b ∈ l, b = false) : l.map (fun _ => false) = l :=
  List.map_const'.trans (List.eq_replicate_of_mem h).symm

theorem core_eta (c : Core) : ({ c with plan := c.plan } : Core) = c := rfl
theorem st_eta (s : St) : ({ s with core := s.core } : St) = s := rfl
theorem or_none (a : Status) : a.or Status.none = a := by cases a <;> rfl

theorem clearTaskStatus_idle (cfg : Cfg) (id : Nat) (s : St) (hs : Idle s) : clearTaskStatus cfg id s.core = s.core := by
  obtain ⟨_, _, h3, h4, _, _⟩ := hs
  unfold clearTaskStatus
  split
  · simp only [planPart] at h3 h4
    simp only [setBit, set_false_of_all_false _ _ h3, set_false_of_all_false _ _ h4]
  · rfl

theorem planClearCore_idle (s : St) (hs : Idle s) : planClearCore s.core = s.core := by
  obtain ⟨h1, _, h3, h4, _, _⟩ := hs
  simp only [planPart] at h1 h3 h4
  simp only [planClearCore, map_false_of_all_false _ h3, map_false_of_all_false _ h4, ← h1]

theorem planDataClear_idle (s : St) (hs : Idle s) : planDataClear s.core = s.core := by
  obtain ⟨h1, h2, h3, h4, h5, _⟩ := hs
  simp only [planPart] at h1 h2 h3 h4 h5
  rw [planDataClear, map_false_of_all_false _ h3, map_false_of_all_false _ h4, ← h1, ← h2, ← h5]

/-- on an idle state the plan step does nothing -/
theorem planStep_idle (env : Env) (s : St) (hs : Idle s) : planStep env s = (s, []) := by
  obtain ⟨_, h2, _, _, h5, _⟩ := hs
  rw [planStep_skip env s (by rw [show s.core.planExists = false from h2, Bool.and_false]),
    ← show s.core.subStatus = .none from h5]

def planView : View where
  I := Idle
  ℓ b := b
  π t := t
  ψ := noPlan
  ψ_nil := rfl
  ψ_append := noPlan_append
  frame _ _ hs h := idle_of_eq (congrArg (fun k => (k.1, k.2.1, k.2.2.1, k.2.2.2.1, k.2.2.2.2.1, k.2.2.2.2.2.2)) h) hs
  reset _ := fun ⟨h1, h2, h3, h4, h5, _⟩ => ⟨h1, h2, h3, h4, h5, rfl⟩
  accum s := fun ⟨h1, h2, h3, h4, h5, h6⟩ =>
    ⟨h1, h2, h3, h4, by show s.core.subStatus.or s.ts = _; rw [show s.core.subStatus = _ from h5, show s.ts = _ from h6]; rfl, h6⟩

/-- a step that is the identity on idle states, against the identity -/
theorem sim_idle_id {m : Core → Core} (h : ∀ s, Idle s → m s.core = s.core) : Sim planView (modifyCore m) (modifyCore id) :=
  fun s hs => ⟨by simp only [modifyCore, h s hs]; rfl, by simp only [modifyCore, h s hs]; exact hs⟩

theorem plan_logEv (env : Env) (s : St) (r : LogRec) (_ : Idle s) : logEv (envP env) s.core r = noPlan (logEv env s.core r) :=
  (noPlan_logEv env s.core r).symm

theorem planView_φ (s : St) : planView.φ s = s := rfl

theorem plan_leaves (env : Env) (hb : PlanFree env.beh) : Leaves planView env (envP env) where
  cfg := rfl
  beh _ _ _ _ := rfl
  cbEv _ _ _ _ _ _ _ _ := rfl
  actEv _ _ _ _ _ := rfl
  perm k fl sid a ha := by
    have := hb k a ha
    cases a with
    | changeTo _ | changeWith _ _ | cancel => rfl
    | _ => cases this
  act k sid a ha := sim_applyAction sid a (fun h => by rw [hb k a ha] at h; cases h) (plan_logEv env) rfl
  log := plan_logEv env
  methodLog := methodLog_of_log rfl rfl (plan_logEv env)
  clearTaskStatus id := sim_idle_id fun s hs => clearTaskStatus_idle env.cfg id s hs
  exitClear := sim_idle_id fun s hs => by
    split
    · exact planClearCore_idle s hs
    · rfl
  record _ _ := rfl
  wipe s hs := by
    have e : wipe env.cfg s.core = wipe (envP env).cfg s.core := by
      unfold wipe
      cases h : env.cfg.plans
      · rfl
      · rw [if_pos rfl, planDataClear_idle s hs]; rfl
    refine ⟨by rw [planView_φ, planView_φ]; simp only [modifyCore, e]; rfl, idle_of_eq ?_ hs⟩
    show planPart { s with core := wipe env.cfg s.core } = _
    rw [e]; unfold wipe; cases (envP env).cfg.history <;> rfl

/-- on an idle state the first run's plan step does nothing, as the second run has none -/
theorem plan_planStep (env : Env) :
    Sim planView (if env.cfg.plans then planStep env else skip) (if (envP env).cfg.plans then planStep (envP env) else skip) :=
  fun s hs => by
    show skip s = _ ∧ _
    split
    · rw [planStep_idle _ s hs]; exact ⟨rfl, hs⟩
    · exact ⟨rfl, hs⟩

/-! ### the API bodies in the terms of `PB` (which is `Sim planView`, unfolded) -/

theorem PB.of_sim {f f' : Step} (h : Sim planView f f') : PB f f' := h
theorem PB.seq {f g f' g' : Step} (hf : PB f f') (hg : PB g g') : PB (f ⋙ g) (f' ⋙ g') := .of_sim (Sim.seq (V := planView) hf hg)
theorem pb_skip : PB skip skip := .of_sim sim_skip
theorem pb_modifyCore {m : Core → Core} (h : ∀ s : St, planPart { s with core := m s.core } = planPart s) :
    PB (modifyCore m) (modifyCore m) :=
  fun s hs => ⟨rfl, idle_of_eq (h s) hs⟩

section bodies
variable (env : Env) (hb : PlanFree env.beh)
include hb

theorem pb_processRequest : PB (processRequest env) (processRequest (envP env)) := .of_sim (sim_processRequest (plan_leaves env hb))
theorem pb_initialEnter : PB (initialEnter env) (initialEnter (envP env)) := .of_sim (sim_initialEnter (plan_leaves env hb))
theorem pb_finalExit : PB (finalExit env) (finalExit (envP env)) := .of_sim (sim_finalExit (plan_leaves env hb))
theorem pb_cycle (pre mid post : Method) : PB (cycle env pre mid post) (cycle (envP env) pre mid post) :=
  .of_sim (sim_cycle (plan_leaves env hb) (plan_planStep env) pre mid post)
theorem pb_query : PB (query env) (query (envP env)) := .of_sim (sim_query (plan_leaves env hb))
theorem pb_replayTransition (d : Nat) : PB (replayTransition env d) (replayTransition (envP env) d) :=
  .of_sim (sim_replayTransition (plan_leaves env hb) (fun _ => rfl) d)
theorem pb_replayEnter (d : Nat) : PB (replayEnter env d) (replayEnter (envP env) d) :=
  .of_sim (sim_replayEnter (plan_leaves env hb) (fun _ => rfl) d)
theorem pb_load (buf : List Nat) : PB (load env buf) (load (envP env) buf) := .of_sim (sim_load (plan_leaves env hb) buf)

end bodies

theorem pb_extChange (env : Env) (d : Nat) (p : Option Nat) : PB (extChange env d p) (extChange (envP env) d p) := by
  intro s hs
  exact ⟨Prod.ext rfl (noPlan_logEv env s.core _).symm, idle_of_eq rfl hs⟩

def IdleC (c : Core) : Prop := Idle { core := c }
def WorldIdle (w : World) : Prop := ∀ i c, w.get i = some c → IdleC c

theorem worldIdle_nil : WorldIdle [] := World.All.nil _

theorem envP_mk (cfg : Cfg) (beh : Beh) (i k : Nat) : (⟨cfgP cfg, beh, i, k⟩ : Env) = envP ⟨cfg, beh, i, k⟩ := rfl

theorem rej_pb (w : World) (hw : WorldIdle w) (i k : Nat) (name : String) :
    ((w, [Ev.rejected i k name]) : World × List Ev) = (((w, [Ev.rejected i k name]) : World × List Ev).1,
      noPlan ((w, [Ev.rejected i k name]) : World × List Ev).2) ∧ WorldIdle ((w, [Ev.rejected i k name]) : World × List Ev).1 :=
  ⟨rfl, hw⟩

theorem idleC_init (cfg : Cfg) (lg : Bool) : IdleC (initCore cfg lg) :=
  ⟨rfl, rfl, fun _ hb => (List.mem_replicate.mp hb).2, fun _ hb => (List.mem_replicate.mp hb).2, rfl, rfl⟩

theorem plan_lifts (cfg : Cfg) (beh : Beh) (hb : PlanFree beh) : Lifts planView cfg (cfgP cfg) beh beh where
  leaves i k := plan_leaves ⟨cfg, beh, i, k⟩ hb
  planStep i k := plan_planStep ⟨cfg, beh, i, k⟩
  boundary _ := ⟨fun _ _ _ _ _ => rfl, fun _ _ => rfl⟩

/-- every call but the plan calls is covered -/
theorem plan_covers (cfg : Cfg) {op : Op} (hop : op.usesPlans = false) : Covers planView cfg (cfgP cfg) op where
  plans e := by rw [hop] at e; cases e
  history _ := ⟨rfl, fun _ => rfl⟩
  serialization _ := rfl
  construct _ _ _ := ⟨rfl, idleC_init ..⟩
  attach _ _ _ := ⟨rfl, rfl, fun _ hs => idle_of_eq rfl hs⟩

/-- **one call with the feature compiled out does what the call does with it compiled in**, on a world where
    nothing of the feature is outstanding, for callbacks that perform no plan action -/
theorem step_P (cfg : Cfg) (beh : Beh) (hb : PlanFree beh) (w : World) (hw : WorldIdle w) (k : Nat) (op : Op)
    (hop : op.usesPlans = false) :
    step (cfgP cfg) beh w k op = ((step cfg beh w k op).1, noPlan (step cfg beh w k op).2) ∧
    WorldIdle (step cfg beh w k op).1 := by
  have h := step_sim (plan_lifts cfg beh hb) hw k op (plan_covers cfg hop)
  simp only [World.image_id planView.κ fun _ => rfl] at h
  exact h

theorem runFrom_P (cfg : Cfg) (beh : Beh) (hb : PlanFree beh) : ∀ (ops : List Op) (w : World) (k : Nat), WorldIdle w →
    (∀ op ∈ ops, op.usesPlans = false) →
    runFrom (cfgP cfg) beh w k ops = ((runFrom cfg beh w k ops).1, noPlan (runFrom cfg beh w k ops).2) ∧
    WorldIdle (runFrom cfg beh w k ops).1 := fun ops w k hw hops => by
  have h := runFrom_sim (plan_lifts cfg beh hb) ops k hw fun op ho => plan_covers cfg (hops op ho)
  simp only [World.image_id planView.κ fun _ => rfl] at h
  exact h

end FFSM2
