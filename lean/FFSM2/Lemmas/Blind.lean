import FFSM2.Lemmas.SimWorld
/-!
# Logger-blindness: an attached logger changes nothing but the log records

`blindView` reads the second run (no logger attached, anywhere) off the first: the same state up to the `logger`
flag, the same events without the log records.  For single steps this is `Blind`; lifted to whole histories it says
that running a history commutes with erasing every logger — in the world and in the calls that attach one.
-/
namespace FFSM2
open Step Ancestors

def strip (c : Core) : Core := { c with logger := false }
def stripSt (s : St) : St := { s with core := strip s.core }

def Ev.isLog : Ev → Bool
  | .log .. => true
  | _ => false

def nolog (es : List Ev) : List Ev := es.filter (fun e => !e.isLog)

@[simp] theorem nolog_nil : nolog [] = [] := rfl
@[simp] theorem nolog_append (a b : List Ev) : nolog (a ++ b) = nolog a ++ nolog b := by simp [nolog]

/-- a step that commutes with erasing the logger and whose non-log events do not depend on it -/
def Blind (f : Step) : Prop :=
  ∀ s, (f (stripSt s)).1 = stripSt (f s).1 ∧ nolog (f (stripSt s)).2 = nolog (f s).2

theorem nolog_logEv (env : Env) (c : Core) (r : LogRec) : nolog (logEv env c r) = [] := by
  unfold logEv; split <;> rfl

theorem logEv_strip (env : Env) (c : Core) (r : LogRec) : logEv env (strip c) r = [] := by
  simp [logEv, strip]

theorem observe_strip (env : Env) (fl : Flavour) (sid : Nat) (cur pend : Tr) (c : Core) :
    observe env fl sid cur pend (strip c) = observe env fl sid cur pend c := rfl

theorem planDataClear_strip (c : Core) : planDataClear (strip c) = strip (planDataClear c) := rfl

/-- the second run starts without a logger and shows the first run's events other than its log records -/
def blindView : View := .free (fun _ => false) id nolog rfl nolog_append

theorem blindView_agnostic : blindView.Agnostic := View.free_agnostic _ _

theorem blind_logEv (env : Env) (s : St) (r : LogRec) (_ : blindView.I s) :
    logEv env (blindView.κ s.core) r = blindView.ψ (logEv env s.core r) :=
  (logEv_strip env s.core r).trans (nolog_logEv env s.core r).symm

theorem blind_leaves (env : Env) : Leaves blindView env env :=
  leaves_of_agnostic blindView_agnostic
    { cfg := rfl, beh := fun _ _ _ _ => rfl, cbEv := fun _ _ _ _ _ _ _ _ => rfl, actEv := fun _ _ _ _ _ => rfl, log := blind_logEv env,
      methodLog := methodLog_of_log rfl rfl (blind_logEv env), record := fun _ _ => rfl }
    rfl fun c => by unfold wipe; cases env.cfg.plans <;> cases env.cfg.history <;> rfl

theorem blind_planStep (env : Env) :
    Sim blindView (if env.cfg.plans then planStep env else skip) (if env.cfg.plans then planStep env else skip) :=
  sim_planStep blindView_agnostic (blind_leaves env) rfl

theorem nolog_nolog (es : List Ev) : nolog (nolog es) = nolog es := by simp [nolog]

/-- what a view onto the same environment, from the stripped state, says in the terms of `Blind` -/
theorem Blind.of_sim {f : Step} (h : Sim blindView f f) : Blind f := fun s => split_image nolog_nolog (h s trivial).1

def stripW (w : World) : World := w.map (Option.map strip)

/-- the same call, but never attaching a logger -/
def Op.quiet : Op → Op
  | .construct i _ => .construct i false
  | .attachLogger i _ => .attachLogger i false
  | op => op

theorem strip_strip (c : Core) : strip (strip c) = strip c := rfl
theorem save_strip (cfg : Cfg) (c : Core) : save cfg (strip c) = save cfg c := rfl
theorem nolog_api (i k : Nat) (name : String) (o : ApiObs) : nolog [Ev.api i k name o] = [Ev.api i k name o] := rfl

theorem rejected_strip (w : World) (i k : Nat) (name : String) :
    ((stripW w, [Ev.rejected i k name]) : World × List Ev).1 = stripW ((w, [Ev.rejected i k name]) : World × List Ev).1 ∧
    nolog ((stripW w, [Ev.rejected i k name]) : World × List Ev).2 = nolog ((w, [Ev.rejected i k name]) : World × List Ev).2 :=
  ⟨rfl, rfl⟩

theorem strip_active (c : Core) : (strip c).active = c.active := rfl
theorem strip_request (c : Core) : (strip c).request = c.request := rfl
theorem strip_prev (c : Core) : (strip c).prev = c.prev := rfl
theorem strip_plan (c : Core) : (strip c).plan = c.plan := rfl

theorem blind_boundary (cfg : Cfg) (i : Nat) : Boundary blindView cfg cfg i i := ⟨fun _ _ _ _ _ => rfl, fun _ _ => rfl⟩

theorem blind_covers (cfg : Cfg) (op : Op) (h1 : ∀ i lg, op ≠ .construct i lg) (h2 : ∀ i on, op ≠ .attachLogger i on) :
    Covers blindView cfg cfg op :=
  ⟨fun _ => ⟨rfl, blindView_agnostic⟩, fun _ => ⟨rfl, fun _ => rfl⟩, fun _ => rfl, fun i lg e => absurd e (h1 i lg),
   fun i on e => absurd e (h2 i on)⟩

/-- the two runs of a call decide on related effects: where the calls differ (`Op.quiet`), the second run's core
    has no logger anyway -/
theorem blind_effect (env : Env) (w : World) (op : Op) (slot : Option Core) :
    Effect.Sim blindView (effect env w op slot) (effect env (w.image strip) op.quiet (slot.map strip)) := by
  cases op with
  | construct i lg =>
    cases slot with
    | none =>
      have : initCore env.cfg (false && env.cfg.logging) = strip (initCore env.cfg (lg && env.cfg.logging)) := by
        simp [initCore, strip]
      exact .ite rfl (this ▸ .run trivial sim_skip fun _ => rfl)
        (this ▸ .run trivial (sim_initialEnter (blind_leaves env)) fun _ => rfl)
    | some c => exact .reject
  | attachLogger i on =>
    cases slot with
    | none => exact .reject
    | some c => exact .guarded rfl trivial (sim_modifyCore (fun _ => rfl) fun _ _ => trivial) fun _ => rfl
  | _ =>
    exact effect_sim (blind_leaves env) (blind_planStep env) w _ _
      (blind_covers _ _ (fun _ _ e => by cases e) fun _ _ e => by cases e) (fun _ _ _ => World.get_image ..) _
      fun _ _ => trivial

theorem blind_effectAll (env : Env) (w : World) (op : Op) :
    Effect.Sim blindView (effectAll env w op) (effectAll env (w.image strip) op.quiet) := by
  have h := blind_effect env w op (w.get op.inst)
  rw [← World.get_image] at h
  cases op with
  | copy i src | replayFrom i src | replayEnterFrom i src =>
    exact effectAll_sim (blind_leaves env) (blind_planStep env) (fun _ _ _ => trivial) _
      (blind_covers _ _ (fun _ _ e => by cases e) fun _ _ e => by cases e)
  | _ => exact h

theorem quiet_inst (op : Op) : op.quiet.inst = op.inst := by cases op <;> rfl
theorem quiet_name (op : Op) : op.quiet.name = op.name := by cases op <;> rfl

/-- **one call commutes with erasing the loggers** (every `step` arm: same guard, blind body) -/
theorem step_strip (cfg : Cfg) (beh : Beh) (w : World) (k : Nat) (op : Op) :
    (step cfg beh (stripW w) k op.quiet).1 = stripW (step cfg beh w k op).1 ∧
    nolog (step cfg beh (stripW w) k op.quiet).2 = nolog (step cfg beh w k op).2 := by
  rw [step_eq, step_eq, quiet_inst, quiet_name]
  have h := ((blind_effect ⟨cfg, beh, op.inst, k⟩ w op (w.get op.inst)).world (blind_boundary cfg op.inst)
    (w := w) (fun _ _ _ => trivial) k op.name).1
  rw [← World.get_image] at h
  exact split_image nolog_nolog h

theorem runFrom_strip (cfg : Cfg) (beh : Beh) (ops : List Op) (w : World) (k : Nat) :
    (runFrom cfg beh (stripW w) k (ops.map Op.quiet)).1 = stripW (runFrom cfg beh w k ops).1 ∧
    nolog (runFrom cfg beh (stripW w) k (ops.map Op.quiet)).2 = nolog (runFrom cfg beh w k ops).2 := by
  have h := (runFrom_sim_of (V := blindView) (beh := beh) (beh' := beh) (blind_boundary cfg) Op.quiet quiet_inst quiet_name
    ops w k (fun _ _ _ => trivial) fun op _ w k _ => blind_effectAll _ w op).1
  exact split_image nolog_nolog h

end FFSM2
