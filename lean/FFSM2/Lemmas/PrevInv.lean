import FFSM2.Lemmas.Reach
/-! `previousTransition()`: which steps leave it alone, and the invariant of every reachable core: when
    present it names the active state as its destination (with transition history disabled it is never
    present). -/
namespace FFSM2
open Step Ancestors

abbrev PrevSame (f : Step) : Prop := Fixes Core.prev f

theorem PrevSame.seq {f g : Step} (hf : PrevSame f) (hg : PrevSame g) : PrevSame (f ⋙ g) := (fixes_sees _).seq hf hg

theorem prev_ignoresLife : IgnoresLife fun s : St => s.core.prev := fun _ _ _ _ _ => rfl

/-- no callback can write it -/
theorem prevSame_applyAction (env : Env) (sid : Nat) (a : Action) : PrevSame (applyAction env sid a) :=
  fun s => (framed_applyAction env sid a s).prev

theorem prevSame_deliver (env : Env) (m : Method) (sid : Nat) (cur pend : Tr) : PrevSame (deliver env m sid cur pend) :=
  fun s => (framed_deliver env m sid cur pend s).prev

section blocks
variable (env : Env)

theorem prevSame_deepEnter (cur : Tr) : PrevSame (deepEnter env cur) :=
  sees_deepEnter (fixes_sees _) prev_ignoresLife fun _ _ _ => prevSame_deliver env _ _ _ _

theorem prevSame_deepExit (cur : Tr) : PrevSame (deepExit env cur) :=
  sees_deepExit (fixes_sees _) prev_ignoresLife (sat_modifyCore fun _ => by split <;> rfl) fun _ _ _ => prevSame_deliver env _ _ _ _

theorem prevSame_changeToRequested (cur : Tr) : PrevSame (changeToRequested env cur) :=
  sees_changeToRequested (fixes_sees _) prev_ignoresLife fun _ _ _ => prevSame_deliver env _ _ _ _

theorem prevSame_guardRound (cur pend : Tr) : PrevSame (guardRound env cur pend) :=
  sees_guardRound (fixes_sees _) (fun _ _ _ => rfl) fun _ _ _ => prevSame_deliver env _ _ _ _

theorem prevSame_entryGuardRound (cur pend : Tr) : PrevSame (entryGuardRound env cur pend) :=
  sees_entryGuardRound (fixes_sees _) (fun _ _ _ => rfl) fun _ _ _ => prevSame_deliver env _ _ _ _

theorem prevSame_applySurvivor (cur : Tr) : PrevSame (applySurvivor env cur) :=
  sees_applySurvivor (fixes_sees _) prev_ignoresLife fun _ _ _ => prevSame_deliver env _ _ _ _

/-- with transition history disabled nothing writes `previousTransition` -/
theorem prevSame_setPrev (hh : env.cfg.history = false) (t : Tr) {m : Core → Core}
    (hm : ∀ c, (m c).prev = if env.cfg.history then t else c.prev) : PrevSame (modifyCore m) :=
  sat_modifyCore fun s => by rw [hm, hh]; rfl

theorem prevSame_processRequest (hh : env.cfg.history = false) : PrevSame (processRequest env) := by
  have fin : ∀ t, PrevSame (finishProcessing env t) := fun t => prevSame_setPrev env hh t fun _ => rfl
  rw [processRequest_eq]
  exact sat_ite _
    (sat_substThen (fixes_sees _).toComposes (prevSame_guardRound env) (fun _ => rfl) (fun _ => rfl) _ fun t =>
      PrevSame.seq (prevSame_applySurvivor env t) (fin t))
    (fin _)

theorem prevSame_initialEnter (hh : env.cfg.history = false) : PrevSame (initialEnter env) := by
  rw [initialEnter_eq]
  exact PrevSame.seq (PrevSame.seq (sat_modifyCore fun _ => by rw [applyRequest_fst]) (prevSame_entryGuardRound env {} {}))
    (sat_substThen (fixes_sees _).toComposes (prevSame_entryGuardRound env) (fun _ => rfl) (fun _ => rfl) _ fun t =>
      PrevSame.seq (PrevSame.seq (prevSame_setPrev env hh t fun _ => rfl) (prevSame_deepEnter env t)) (sat_modifyCore fun _ => rfl))

/-- what `processRequest` leaves as `previousTransition`: the surviving request when transition history is
    on, what was there otherwise -/
theorem processRequest_prev (s : St) :
    (processRequest env s).1.core.prev =
      if env.cfg.history then survivor {} (processRounds env s) else s.core.prev := by
  cases hh : env.cfg.history
  · exact prevSame_processRequest env hh s
  · exact (processRequest_spec env s).2.2.1 hh

theorem prevSame_phase (m : Method) (hf : Bool) : PrevSame (phase env m hf) :=
  sees_phase (fixes_sees _) (fun _ _ _ => rfl) (fun _ => prevSame_deliver env _ _ _ _) hf

theorem prevSame_planStep : PrevSame (planStep env) :=
  sees_planStep (fixes_sees _) (fun _ _ _ _ _ _ => rfl) (prevSame_deliver env _ _ _ _) (prevSame_deliver env _ _ _ _)
    (sees_fireStep (fixes_sees _) (fun _ _ _ _ => rfl) fun h _ => h)

theorem prevSame_prelude (pre mid post : Method) : PrevSame (prelude env pre mid post) :=
  sat_prelude (fixes_sees _).toComposes (fun _ => rfl) (prevSame_phase env _ _) (prevSame_phase env _ _) (prevSame_phase env _ _) (prevSame_planStep env)

end blocks

/-- **the invariant**: with transition history enabled, a present `previousTransition()` names the active
    state as its destination; with history disabled it is never present -/
def PrevOk (cfg : Cfg) (c : Core) : Prop :=
  if cfg.history then (c.prev.valid = true → c.prev.dest = c.active) else c.prev.valid = false

theorem prevOk_of_same {cfg : Cfg} {c c' : Core} (h : PrevOk cfg c) (hp : c'.prev = c.prev) (ha : c'.active = c.active) : PrevOk cfg c' := by
  unfold PrevOk at *
  rw [hp, ha]; exact h

theorem prevOk_of_cleared {cfg : Cfg} {c : Core} (hp : c.prev.valid = false) : PrevOk cfg c := by
  unfold PrevOk
  split
  · intro h; rw [hp] at h; cases h
  · exact hp

theorem prevOk_processRequest (env : Env) (s : St) (h : PrevOk env.cfg s.core) : PrevOk env.cfg (processRequest env s).1.core := by
  unfold PrevOk at *
  rw [processRequest_prev]
  cases hh : env.cfg.history
  · rw [hh] at h; exact h
  · exact fun hv => ((processRequest_spec env s).2.2.2.2 hv).1.symm

theorem prevOk_cycle (env : Env) (pre mid post : Method) (s : St) (h : PrevOk env.cfg s.core) :
    PrevOk env.cfg (cycle env pre mid post s).1.core := by
  rw [cycle_eq]
  simp only [Step.seq]
  exact prevOk_processRequest env _ (prevOk_of_same h (prevSame_prelude env pre mid post s) (stable_prelude env pre mid post s).1)

/-- the tail of activation records the transition it enters by -/
theorem enterSurvivor_prev (env : Env) (t : Tr) (s : St) :
    (enterSurvivor env t s).1.core.prev = if env.cfg.history then t else s.core.prev := by
  unfold enterSurvivor
  simp only [Step.seq, modifyCore]
  rw [prevSame_deepEnter]

theorem prevOk_initialEnter (env : Env) (s : St) (h : PrevOk env.cfg s.core) :
    PrevOk env.cfg (initialEnter env s).1.core := by
  unfold PrevOk at *
  cases hh : env.cfg.history
  · rw [prevSame_initialEnter env hh s]
    simpa [hh] using h
  · -- the last step is `enterSurvivor`: `prev := cur`, and it enters `cur.dest` / state 0
    unfold initialEnter
    dsimp only
    rw [enterSurvivor_prev, (enterSurvivor_spec env _ _).1]
    simp only [hh, if_true]
    intro hv
    simp [hv]

end FFSM2
