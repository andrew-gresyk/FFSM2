import FFSM2.Lemmas.Processing
/-! Registry / event facts for the remaining steps: phases, plan step, replay, load, query. -/
namespace FFSM2
open Step Ancestors

theorem silent_cond {p : Ev → Bool} {c : St → Bool} {t e : Step} (ht : Silent p t) (he : Silent p e) :
    Silent p (fun s => if c s then t s else e s) := sat_ite (J := fun _ es _ => es.filter p = []) c ht he

theorem stable_cond {c : St → Bool} {t e : Step} (ht : Stable t) (he : Stable e) :
    Stable (fun s => if c s then t s else e s) :=
  sat_ite (J := fun s _ s' => s'.core.active = s.core.active ∧ s'.core.requested = s.core.requested) c ht he

theorem guardFree_of_life {m : Method} (h : m.isLife = true) : m.isGuard = false := by
  cases m <;> simp [Method.isLife] at h <;> rfl

theorem life_noGuard (cur : Tr) : Life (Quiet Ev.isGuard) cur := fun _ _ hm => guard_excludes (guardFree_of_life hm)

/-- replaying / loading / entering / exiting never consults a guard -/
theorem noGuard_deepEnter (env : Env) (cur : Tr) : NoGuard (deepEnter env cur) :=
  (emits_deepEnter (life_noGuard _)).silent methodPred_isGuard
theorem noGuard_finalExit (env : Env) : NoGuard (finalExit env) :=
  (emits_finalExit (life_noGuard _)).silent methodPred_isGuard
theorem noGuard_replayTransition (env : Env) (d : Nat) : NoGuard (replayTransition env d) :=
  (emits_replayTransition (life_noGuard _) d).silent methodPred_isGuard
theorem noGuard_replayEnter (env : Env) (d : Nat) : NoGuard (replayEnter env d) :=
  (emits_replayEnter (life_noGuard _) d).silent methodPred_isGuard
theorem noGuard_load (env : Env) (buf : List Nat) : NoGuard (load env buf) :=
  (emits_load (life_noGuard _) buf).silent methodPred_isGuard

theorem stable_phase (env : Env) (m : Method) (hf : Bool) : Stable (phase env m hf) :=
  sees_phase stable_sees (fun _ _ _ => rfl) (fun _ => stable_deliver env _ _ _ _) hf

theorem stable_phases (env : Env) (pre mid post : Method) : Stable (cyclePhases env pre mid post) :=
  sat_cyclePhases stable_sees.toComposes (fun _ => ⟨rfl, rfl⟩) (stable_phase env _ _) (stable_phase env _ _) (stable_phase env _ _)

theorem silent_phase {p : Ev → Bool} (hp : MethodPred p) (env : Env) (m : Method) (hm : Excl p m) (hf : Bool) :
    Silent p (phase env m hf) :=
  (emits_phase (A := Quiet p) (fun _ => hm) hf).silent hp

theorem silent_cyclePhases {p : Ev → Bool} (hp : MethodPred p) (env : Env) (pre mid post : Method)
    (h1 : Excl p pre) (h2 : Excl p mid) (h3 : Excl p post) : Silent p (cyclePhases env pre mid post) :=
  .seq (.seq (.seq (silent_modify _ _) (silent_phase hp env pre h1 _)) (silent_phase hp env mid h2 _)) (silent_phase hp env post h3 _)

theorem stable_planStep (env : Env) : Stable (planStep env) :=
  sees_planStep stable_sees (fun _ _ _ _ _ _ => rfl) (stable_deliver env _ _ _ _) (stable_deliver env _ _ _ _)
    (sees_fireStep stable_sees (fun _ _ _ _ => rfl) fun h _ => stable_sees.silent h)

theorem silent_planStep {p : Ev → Bool} (hp : MethodPred p) (env : Env) (hm1 : Excl p .planFailed) (hm2 : Excl p .planSucceeded) :
    Silent p (planStep env) :=
  (emits_planStep (A := Quiet p) hm1 hm2).silent hp

theorem noLife_planStep (env : Env) : NoLife (planStep env) :=
  silent_planStep methodPred_isLife env (life_excludes rfl) (life_excludes rfl)
theorem noGuard_planStep (env : Env) : NoGuard (planStep env) :=
  silent_planStep methodPred_isGuard env (guard_excludes rfl) (guard_excludes rfl)

theorem stable_prelude (env : Env) (pre mid post : Method) : Stable (prelude env pre mid post) :=
  sat_prelude stable_sees.toComposes (fun _ => ⟨rfl, rfl⟩) (stable_phase env _ _) (stable_phase env _ _) (stable_phase env _ _) (stable_planStep env)

theorem silent_prelude {p : Ev → Bool} (hp : MethodPred p) (env : Env) {pre mid post : Method}
    (h1 : Excl p pre) (h2 : Excl p mid) (h3 : Excl p post) (hf : Excl p .planFailed) (hs : Excl p .planSucceeded) :
    Silent p (prelude env pre mid post) :=
  (emits_prelude (A := Quiet p) (fun _ => h1) (fun _ => h2) (fun _ => h3) hf hs).silent hp

/-- **requests last**: no lifecycle callback (and, next, no guard) runs before every phase callback of the call has been
    delivered, nor during the plan step -/
theorem noLife_prelude (env : Env) {pre mid post : Method} (h1 : pre.isLife = false) (h2 : mid.isLife = false) (h3 : post.isLife = false) :
    NoLife (prelude env pre mid post) :=
  silent_prelude methodPred_isLife env (life_excludes h1) (life_excludes h2) (life_excludes h3) (life_excludes rfl) (life_excludes rfl)

theorem noGuard_prelude (env : Env) {pre mid post : Method} (h1 : pre.isGuard = false) (h2 : mid.isGuard = false) (h3 : post.isGuard = false) :
    NoGuard (prelude env pre mid post) :=
  silent_prelude methodPred_isGuard env (guard_excludes h1) (guard_excludes h2) (guard_excludes h3) (guard_excludes rfl) (guard_excludes rfl)

/-! `Silent p` for request processing, deactivation and `query`, for a predicate `p` that is false on the guard and lifecycle
    methods (the only callbacks the first two deliver); used for the plan outcome callbacks: nothing but the plan step can
    deliver them -/

section
variable {p : Ev → Bool}

theorem silent_finalExit (hp : MethodPred p) (hx : ExclCore p) (env : Env) : Silent p (finalExit env) :=
  (emits_finalExit (hx.life _)).silent hp

theorem silent_processRequest (hp : MethodPred p) (hx : ExclCore p) (env : Env) : Silent p (processRequest env) :=
  (emits_processRequest hx.guards hx.life).silent hp

theorem silent_query (hp : MethodPred p) (hq : Excl p .query) (env : Env) : Silent p (query env) :=
  (emits_query (A := Quiet p) fun _ => hq).silent hp

end

end FFSM2
