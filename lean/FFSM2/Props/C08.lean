import FFSM2.Lemmas.OwnSig
/-!
# C08 — Plan tasks fire in order, only for the succeeded active state, and only once
# C09 — planSucceeded / planFailed are delivered exactly when warranted   (shared plan-step lemmas)

`firePlan` is the loop of `FullControlT::updatePlan` (SUCCESS branch); `firedOf` is its ghost view:
the tasks it fires, in order.
-/
namespace FFSM2
open Step

/-- ghost: the tasks `firePlan` fires, given the success bit of the active state as the loop sees it -/
def firedOf : List Task → (active : Nat) → (succBit : Bool) → List Task
  | [], _, _ => []
  | t :: ts, a, b =>
    if t.origin == a then
      if b then t :: firedOf ts a (if t.origin == t.dest then false else b)
      else firedOf ts a b
    else []

/-- ghost: the tasks `firePlan` keeps -/
def keptOf : List Task → (active : Nat) → (succBit : Bool) → List Task
  | [], _, _ => []
  | t :: ts, a, b =>
    if t.origin == a then
      if b then keptOf ts a (if t.origin == t.dest then false else b)
      else t :: keptOf ts a b
    else t :: ts

theorem getBit_setBit_self (l : List Bool) (i : Nat) (v : Bool) (h : i < l.length) : getBit (setBit l i v) i = v :=
  getD_set_self l v false h

theorem lt_of_getBit {l : List Bool} {i : Nat} (h : getBit l i = true) : i < l.length := by
  unfold getBit at h
  rw [List.getD_eq_getElem?_getD] at h
  by_cases hi : i < l.length
  · exact hi
  · rw [List.getElem?_eq_none_iff.mpr (Nat.le_of_not_lt hi)] at h; cases h

theorem firePlan_ghost (env : Env) : ∀ (tasks : List Task) (s : St) (clr : List Nat),
    (firePlan env tasks s clr).1.2.1 = keptOf tasks s.core.active (getBit s.core.succ s.core.active) ∧
    (firePlan env tasks s clr).1.1.core.request =
      ((firedOf tasks s.core.active (getBit s.core.succ s.core.active)).getLast?.elim s.core.request
        fun t => ⟨t.origin, t.dest, t.payload⟩) := by
  intro tasks
  induction tasks with
  | nil => intro s clr; exact ⟨rfl, rfl⟩
  | cons t ts ih =>
    intro s clr
    rw [firePlan_cons]
    simp only [keptOf, firedOf, ctlIsActive]
    by_cases ho : s.core.active = t.origin
    · rw [ho]
      simp only [beq_self_eq_true, if_true]
      cases hb : getBit s.core.succ t.origin
      · obtain ⟨h1, h2⟩ := ih s clr
        rw [ho, hb] at h1 h2
        exact ⟨congrArg (t :: ·) h1, h2⟩
      · -- the task fires: the rest of the loop runs from `fireTask t s`, with the bit cleared if the task is cyclic
        have hc := fireTask_core t s
        have hbit : getBit (fireTask t s).core.succ t.origin = if t.origin == t.dest then false else true := by
          rw [hc]; dsimp only
          split
          · exact getBit_setBit_self _ _ _ (lt_of_getBit hb)
          · exact hb
        obtain ⟨h1, h2⟩ := ih (fireTask t s) (if t.origin == t.dest then clr else t.origin :: clr)
        rw [show (fireTask t s).core.active = t.origin by rw [hc]; exact ho, hbit] at h1 h2
        refine ⟨h1, ?_⟩
        simp only [if_true]
        rw [h2, hc, List.getLast?_cons]
        cases (firedOf ts t.origin (if t.origin == t.dest then false else true)).getLast? <;> rfl
    · have ho' : (s.core.active == t.origin) = false := beq_false_of_ne ho
      have ho'' : (t.origin == s.core.active) = false := beq_false_of_ne fun e => ho e.symm
      simp only [ho', ho'', Bool.false_eq_true, if_false]
      exact ⟨trivial, rfl⟩

/-- `firePlan` computes exactly `keptOf` / `firedOf`; the registry is untouched; the outstanding
    request afterwards is the last fired task (origin = the task's origin, payload = the task's) -/
theorem firePlan_spec (env : Env) : ∀ (tasks : List Task) (s : St) (clr : List Nat),
    s.core.active < s.core.succ.length →
    (firePlan env tasks s clr).1.2.1 = keptOf tasks s.core.active (getBit s.core.succ s.core.active) ∧
    (firePlan env tasks s clr).1.1.core.active = s.core.active ∧
    (firePlan env tasks s clr).1.1.core.plan = s.core.plan ∧
    (firePlan env tasks s clr).1.1.core.request =
      (match (firedOf tasks s.core.active (getBit s.core.succ s.core.active)).getLast? with
       | some t => ⟨t.origin, t.dest, t.payload⟩
       | none => s.core.request) := fun tasks s clr _ => by
  obtain ⟨q, su, e, _⟩ := firePlan_shape env tasks s clr
  refine ⟨(firePlan_ghost env tasks s clr).1, by rw [e], by rw [e], (firePlan_ghost env tasks s clr).2.trans ?_⟩
  cases (firedOf tasks s.core.active (getBit s.core.succ s.core.active)).getLast? <;> rfl

/-- **only for the active state, only with its success outstanding, never past a task of another
    origin**: every fired task has the active state as origin, lies in the front run of such tasks,
    and nothing fires unless that state's success report is outstanding -/
theorem C08_fire_sound (tasks : List Task) (a : Nat) (b : Bool) :
    (∀ t ∈ firedOf tasks a b, t.origin = a) ∧
    (b = false → firedOf tasks a b = []) ∧
    (∀ t ∈ firedOf tasks a b, t ∈ tasks.takeWhile (fun t => t.origin == a)) := by
  induction tasks generalizing b with
  | nil => simp [firedOf]
  | cons t ts ih =>
    simp only [firedOf, List.takeWhile_cons]
    by_cases ho : (t.origin == a) = true
    · simp only [ho, if_true]
      cases b
      · simp only [Bool.false_eq_true, if_false]
        obtain ⟨i1, i2, i3⟩ := ih false
        exact ⟨i1, fun _ => i2 rfl, fun x hx => by simp [i3 x hx]⟩
      · simp only [if_true]
        obtain ⟨i1, i2, i3⟩ := ih (if (t.origin == t.dest) = true then false else true)
        refine ⟨?_, ?_, ?_⟩
        · intro x hx
          rcases List.mem_cons.mp hx with rfl | hx
          · exact beq_iff_eq.mp ho
          · exact i1 x hx
        · intro h; cases h
        · intro x hx
          rcases List.mem_cons.mp hx with rfl | hx
          · simp
          · simp [i3 x hx]
    · have : (t.origin == a) = false := by simpa using ho
      simp [this]

/-- **fired tasks are removed, the rest keep their order**: kept and fired partition the plan; `kept`
    is a sublist of the plan (original order) -/
theorem C08_once (tasks : List Task) (a : Nat) (b : Bool) :
    (keptOf tasks a b).length + (firedOf tasks a b).length = tasks.length ∧
    List.Sublist (keptOf tasks a b) tasks := by
  induction tasks generalizing b with
  | nil => simp [keptOf, firedOf]
  | cons t ts ih =>
    simp only [keptOf, firedOf]
    by_cases ho : (t.origin == a) = true
    · simp only [ho, if_true]
      cases b
      · simp only [Bool.false_eq_true, if_false, List.length_cons]
        obtain ⟨i1, i2⟩ := ih false
        exact ⟨by omega, i2.cons_cons t⟩
      · simp only [if_true, List.length_cons]
        obtain ⟨i1, i2⟩ := ih (if (t.origin == t.dest) = true then false else true)
        exact ⟨by omega, i2.cons t⟩
    · have : (t.origin == a) = false := by simpa using ho
      simp [this]

/-- **converse**: when the first task's origin is the active state and its success is outstanding,
    that task fires (it is the first fired task and is not kept at the front) -/
theorem C08_fire_complete (t : Task) (ts : List Task) (a : Nat) (h : t.origin = a) :
    (firedOf (t :: ts) a true).head? = some t := by
  simp [firedOf, h]

/-- **a success report is consumed by the tasks it fires**: after a cyclic task fired, nothing more
    fires on that report (the bit is cleared on the spot) -/
theorem C08_cyclic_consumes (t : Task) (ts : List Task) (a : Nat) (h : t.origin = a) (hc : t.dest = a) :
    firedOf (t :: ts) a true = [t] := by
  have hb := (C08_fire_sound ts a false).2.1 rfl
  simp [firedOf, h, hc, hb]

/-- non-vacuity: plan `[2→0, 2→2, 2→1, 0→1]`, state 2 active with success outstanding: the first two
    fire (the cyclic one consumes the report), `2→1` waits for a new report, `0→1` is untouched -/
example : firedOf [⟨2,0,none⟩, ⟨2,2,some 7⟩, ⟨2,1,none⟩, ⟨0,1,none⟩] 2 true = [⟨2,0,none⟩, ⟨2,2,some 7⟩] ∧
          keptOf [⟨2,0,none⟩, ⟨2,2,some 7⟩, ⟨2,1,none⟩, ⟨0,1,none⟩] 2 true = [⟨2,1,none⟩, ⟨0,1,none⟩] := by decide +kernel

end FFSM2
