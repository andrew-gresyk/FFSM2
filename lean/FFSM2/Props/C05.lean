import FFSM2.Lemmas.OwnSig
/-!
# C05 — Update/react cycle: fixed callback order, active state only, requests last

`ownSig` lists, in order, which state's own callback each delivery of a trace reached (visible or
not — a state that does not define the callback still receives the library's empty default).
-/
namespace FFSM2
open Step

/-- **fixed order, exactly once each, active state only**: `pre` on the root then the active state,
    `mid` on the root then the active state, `post` on the active state then the root — where the
    active state is the one that was active when the call began, whatever the callbacks request,
    report or edit in between.  (`headFirst` is the translated table of which side `C_::deepX` runs first.) -/
theorem C05_phase_order (env : Env) (pre mid post : Method) (hpre : headFirst pre = true) (hmid : headFirst mid = true)
    (hpost : headFirst post = false) (s : St) :
    ownSig (cyclePhases env pre mid post s).2 =
      [(pre, 255), (pre, s.core.active), (mid, 255), (mid, s.core.active), (post, s.core.active), (post, 255)] ∧
    (cyclePhases env pre mid post s).1.core.active = s.core.active := by
  refine ⟨?_, (stable_phases env pre mid post s).1⟩
  unfold cyclePhases
  rw [hpre, hmid, hpost, seq_snd, seq_snd, seq_snd, ownSig_append, ownSig_append, ownSig_append, ownSig_phase, ownSig_phase, ownSig_phase]
  simp only [Step.seq, Step.modify, ownSig_nil, List.nil_append, if_true, Bool.false_eq_true, if_false]
  rw [(stable_phase env mid true _).1, (stable_phase env pre true _).1]
  rfl

/-- `update()` / `react()` are the phases, then the plan step, then request processing -/
theorem C05_update_shape (env : Env) :
    update env = cyclePhases env .preUpdate .update .postUpdate ⋙ (if env.cfg.plans then planStep env else skip) ⋙ processRequest env ∧
    react env = cyclePhases env .preReact .react .postReact ⋙ (if env.cfg.plans then planStep env else skip) ⋙ processRequest env :=
  ⟨rfl, rfl⟩

/-- **requests last**: no guard, exit, enter or reenter runs before every phase callback of the call
    has been delivered (and none during the plan step) -/
theorem C05_requests_last (env : Env) (pre mid post : Method)
    (h1 : pre.isLife = false ∧ pre.isGuard = false) (h2 : mid.isLife = false ∧ mid.isGuard = false)
    (h3 : post.isLife = false ∧ post.isGuard = false) :
    NoLife (prelude env pre mid post) ∧ NoGuard (prelude env pre mid post) :=
  ⟨noLife_prelude env h1.1 h2.1 h3.1, noGuard_prelude env h1.2 h2.2 h3.2⟩

theorem permitted_const (cfg : Cfg) (sid : Nat) (a : Action) : permitted cfg .const sid a = false := by
  cases a <;> rfl

/-- a `query` delivery hands out a const control: no action is permitted -/
theorem deliver_query_core (env : Env) (sid : Nat) : Fixes id (deliver env .query sid {} {}) :=
  sat_deliver (fixes_sees id).toComposes (fun _ => rfl) (fun _ _ => rfl)
    fun _ _ a _ _ hp => absurd hp (by rw [show Method.query.flavour = .const from rfl, permitted_const]; exact Bool.false_ne_true)

/-- **query leaves the machine unchanged** and delivers `query` to the root, then the active state -/
theorem C05_query_readonly (env : Env) (s : St) :
    (query env s).1.core = s.core ∧ ownSig (query env s).2 = [(.query, 255), (.query, s.core.active)] := by
  refine ⟨sat_query (fixes_sees id).toComposes (deliver_query_core env) s, ?_⟩
  -- the translated table: `C_::deepQuery` runs the root head first
  rw [query_eq, reading, if_pos (show headFirst .query = true from rfl), seq_snd, ownSig_append, ownSig_deliver, ownSig_deliver]
  rfl

/-- non-vacuity: a 3-state machine with state 2 active; `preUpdate` of the active state requests a
    transition and reports success: the six phase deliveries still come first and in order -/
example :
    let cfg : Cfg := { n := 3, L := 2, cap := 2 }
    let beh : Beh := fun k => if k.method = .preUpdate ∧ k.sid = 2 then [.changeTo 0, .succeed none] else []
    let env : Env := ⟨cfg, beh, 0, 5⟩
    let s0 : St := { core := { (initCore cfg false) with active := 2 } }
    (ownSig (update env s0).2).take 6 =
      [(.preUpdate, 255), (.preUpdate, 2), (.update, 255), (.update, 2), (.postUpdate, 2), (.postUpdate, 255)] ∧
    (update env s0).1.core.active = 0 := by
  decide +kernel

end FFSM2
