import FFSM2.Props.History
import FFSM2.Lemmas.PrevInv
import FFSM2.Props.C11
/-!
# C11 over whole histories: `previousTransition()` on every reachable state; a replica fed from it stays in sync
-/
namespace FFSM2
open Step

theorem wipe_prev_invalid {cfg : Cfg} {c c' : Core} (h : PrevOk cfg c) (hp : c'.prev = c.prev) : (wipe cfg c').prev.valid = false := by
  unfold PrevOk at h
  cases hh : cfg.history
  · rw [hh] at h
    rw [← hp] at h
    unfold wipe
    rw [hh]
    cases cfg.plans <;> exact h
  · rw [wipe_prev hh]; rfl

theorem prevOk_finalExit (env : Env) (s : St) (h : PrevOk env.cfg s.core) : PrevOk env.cfg (finalExit env s).1.core :=
  prevOk_of_cleared (wipe_prev_invalid h (prevSame_deepExit env {} s))

theorem prev_invalid_of_inactive {cfg : Cfg} {c : Core} (h : PrevOk cfg c) (ha : c.active = 255) : c.prev.valid = false := by
  unfold PrevOk at h
  split at h
  · cases hv : c.prev.valid
    · rfl
    · have := h hv
      rw [ha] at this
      simp [Tr.valid, this] at hv
  · exact h

theorem prevOk_load (env : Env) (buf : List Nat) (s : St) (h : PrevOk env.cfg s.core) : PrevOk env.cfg (load env buf s).1.core := by
  rw [load_eq]
  dsimp only
  cases (BitStream.read 1 buf 0).1 != 0
  · cases env.cfg.manual && s.core.active != 255
    · exact h
    · exact prevOk_finalExit env s h
  · cases hact : s.core.active != 255
    · cases env.cfg.manual
      · exact h
      · -- activation by load: an inactive machine has no history
        apply prevOk_of_cleared
        rw [if_pos rfl, if_neg Bool.false_ne_true, if_pos rfl, Step.seq, prevSame_deepEnter]
        exact prev_invalid_of_inactive h (bne_eq_false_iff_eq.mp hact)
    · -- loadActive: history cleared (or never present), then a change that does not write it
      apply prevOk_of_cleared
      rw [if_pos rfl, if_pos rfl, loadActive_eq, Step.seq, prevSame_changeToRequested]
      exact wipe_prev_invalid h rfl

theorem prevOk_of_dest {cfg : Cfg} {c : Core} {d : Nat} (hh : cfg.history = true) (hp : c.prev = ⟨255, d, none⟩) (ha : c.active = d) :
    PrevOk cfg c := by
  unfold PrevOk
  rw [if_pos hh, hp, ha]
  exact fun _ => rfl

theorem apiStep_prevOk {w : World} {env : Env} (hwf : env.cfg.WF) {tag : ApiTag} {slot : Option Core} {c : Core} {f : Step}
    (h : ApiStep env.cfg w env tag slot c f) (hc : PrevOk env.cfg c) : PrevOk env.cfg (f { core := c }).1.core := by
  cases h with
  | constructManual => exact hc
  | constructAuto | enter => exact prevOk_initialEnter env _ hc
  | exit => exact prevOk_finalExit env _ hc
  | update | react => exact prevOk_cycle env _ _ _ _ hc
  | query =>
    have hq : PrevSame (query env) := sat_query (fixes_sees _).toComposes fun _ => prevSame_deliver env _ _ _ _
    exact prevOk_of_same hc (hq _) (query_quiet env _).2
  | change | attachLogger => exact prevOk_of_same hc rfl rfl
  | immediate c d p => exact prevOk_processRequest env _ (prevOk_of_same hc rfl rfl)
  | status c id ok => exact prevOk_of_same hc (by cases ok <;> rfl) (by cases ok <;> rfl)
  | planAppend | planEdit => exact prevOk_of_same hc (prevSame_applyAction env 255 _ _) (stable_applyAction env 255 _ _).1
  | load => exact prevOk_load env _ _ hc
  | replayEnter c d hh hm ha hd =>
    refine prevOk_of_dest hh ?_ (C11_replayEnter_spec env d (id_ne_255 hwf hd) _).1
    unfold replayEnter
    simp only [Step.seq, modifyCore]
    rw [prevSame_deepEnter]
  | replayClear c hh ha => exact prevOk_of_cleared rfl
  | replayTransition c d hh ha hd =>
    refine prevOk_of_dest hh ?_ (C11_replay_spec env d (id_ne_255 hwf hd) _).1
    unfold replayTransition
    simp only [Step.seq, modifyCore]
    rw [prevSame_changeToRequested]

theorem stepAll_prevOk (cfg : Cfg) (hwf : cfg.WF) (beh : Beh) (w : World) (k : Nat) (op : Op) (hw : w.All (PrevOk cfg)) :
    (stepAll cfg beh w k op).1.All (PrevOk cfg) :=
  stepAll_all cfg beh k op hw fun hf hc =>
    apiStep_prevOk (env := ⟨cfg, beh, op.inst, k⟩) hwf hf (hf.start_of (fun _ => prevOk_of_cleared rfl) hc)

/-- **C11 over whole histories — the history names where the machine is**: in every state any history can
    reach, a present `previousTransition()` has the active state as its destination (so a machine that is
    inactive, or whose last call applied nothing, shows none), and with transition history disabled none is
    ever shown -/
theorem C11_history_prev_names_active (cfg : Cfg) (hwf : cfg.WF) (beh : Beh) (ops : List Op) (i : Nat) (c : Core)
    (h : (run cfg beh ops).1.get i = some c) :
    (cfg.history = true → c.prev.valid = true → c.prev.dest = c.active) ∧
    (cfg.history = false → c.prev.valid = false) := by
  have hok : PrevOk cfg c := runFrom_inv cfg beh (stepAll_prevOk cfg hwf beh) ops 0 [] (World.All.nil _) i c h
  unfold PrevOk at hok
  constructor
  · intro hh; simpa [hh] using hok
  · intro hh; simpa [hh] using hok

/-- **C11 over whole histories — a replica fed the authority's history is in the authority's state.**  From any
    reachable world, for an active authority `a` and an active replica `r` (transition history enabled):
    after `replica.replayTransition(authority.previousTransition().destination)` the replica is in the
    authority's active state whenever the authority has a history to give; when it has none
    (`destination == INVALID`) the replica stays where it was. -/
theorem C11_history_replica_sync (cfg : Cfg) (hwf : cfg.WF) (hh : cfg.history = true) (beh : Beh) (ops : List Op)
    (a r k : Nat) (ca cr : Core)
    (ha : (run cfg beh ops).1.get a = some ca) (hr : (run cfg beh ops).1.get r = some cr) (hract : cr.active ≠ 255) :
    actOf ((stepAll cfg beh (run cfg beh ops).1 k (.replayFrom r a)).1.get r) =
      if ca.prev.valid then ca.active else cr.active := by
  have hprev := (C11_history_prev_names_active cfg hwf beh ops a ca ha).1 hh
  have hok := run_worldOk cfg hwf beh ops a ca ha
  generalize (run cfg beh ops).1 = w at ha hr
  have hra : (cr.active != 255) = true := by simpa using hract
  cases hv : ca.prev.valid
  · -- nothing to replay: `replayTransition(INVALID)`
    have hd : (if cfg.history = true then ca.prev.canon.dest else 255) = 255 := by
      simp [hh, Tr.canon, hv]
    simp only [stepAll, ha, hd, Bool.false_eq_true, if_false]
    rw [C11_replay_invalid cfg beh w k r cr hr hh hract, World.get_put_same]
    rfl
  · have hdest : ca.prev.dest = ca.active := hprev hv
    have hne : ca.prev.dest ≠ 255 := by simpa [Tr.valid] using hv
    have hlt : ca.prev.dest < cfg.n := by
      rcases hok.active with h1 | h1
      · rw [hdest]; exact h1
      · rw [hdest] at hne; exact absurd h1 hne
    have hd : (if cfg.history = true then ca.prev.canon.dest else 255) = ca.prev.dest := by
      simp [hh, Tr.canon, hv]
    have hne' : (ca.prev.dest == 255) = false := by simpa using hne
    simp only [stepAll, ha, hd, if_true]
    simp only [step_eq, Op.inst, effect, hr, hh, hra, Bool.true_and, idOk, decide_eq_true hlt, Bool.true_or, if_true, hne',
      Bool.false_eq_true, if_false]
    refine (congrArg actOf (World.get_put_same w r _)).trans ?_
    show (replayTransition ⟨cfg, beh, r, k⟩ ca.prev.dest { core := cr }).1.core.active = ca.active
    rw [(C11_replay_spec _ _ hne _).1, hdest]

end FFSM2
