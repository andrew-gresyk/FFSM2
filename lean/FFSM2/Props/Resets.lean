import FFSM2.Machine
/-!
# What `load()` and the final exit reset — as the source says it, on every run

`Gen.loadSteps` / `Gen.exitSteps` are **regenerated from the source on every run** (`tools/translate.py`, group
`resets`): the reset statements of `R_::load(ReadStream&)` and `R_::finalExit()` in source order, each with the feature
switch it is compiled under, and the position of the lifecycle delivery among them.

    statement  0 `_core.request.clear()`   1 `_core.planData.clear()`   2 `_core.previousTransition.clear()`
               3 the delivery (`deepChangeToRequested` / `deepExit`)    4 `_core.registry.clear()`
    guard      0 unconditional   1 `FFSM2_PLANS_AVAILABLE()`   2 `FFSM2_TRANSITION_HISTORY_AVAILABLE()`   9 anything else

`runSteps` interprets such a list; the theorems state that the model's `loadActive` / `finalExit` are exactly the
interpretation of what the source says now.  Moving a reset under a different switch, or to the other side of the
delivery, changes the regenerated list and these proofs no longer check.
-/
namespace FFSM2
open Step

def guardOn (cfg : Cfg) : Nat → Bool
  | 0 => true
  | 1 => cfg.plans
  | 2 => cfg.history
  | _ => false

def resetStmt (cfg : Cfg) (st : Nat × Nat) (c : Core) : Core :=
  if guardOn cfg st.2 then
    match st.1 with
    | 0 => { c with request := c.request.clear }
    | 1 => planDataClear c
    | 2 => { c with prev := c.prev.clear }
    | 4 => { c with requested := 255, active := 255 }
    | _ => c
  else c

def runSteps (cfg : Cfg) (delivery : Step) : List (Nat × Nat) → Step
  | [] => skip
  | st :: rest =>
    (if st.1 = 3 then (if guardOn cfg st.2 then delivery else skip) else modifyCore (resetStmt cfg st)) ⋙
      runSteps cfg delivery rest

/-- **`load()` of an active machine is what the source says**: the registry receives the loaded state, then the
    statements of `Gen.loadSteps` run in their source order under their source switches -/
theorem C12_load_resets_as_in_source (env : Env) (r : Nat) :
    loadActive env r =
      modifyCore (fun c => { c with requested := r }) ⋙ runSteps env.cfg (changeToRequested env {}) Gen.loadSteps := by
  funext s
  simp only [loadActive, runSteps, Gen.loadSteps, resetStmt, guardOn, Step.seq, modifyCore, skip, reduceIte, Nat.reduceEqDiff,
    List.nil_append, List.append_nil]

/-- **the final exit is what the source says**: the delivery first, then the resets of `Gen.exitSteps` -/
theorem C01_finalExit_resets_as_in_source (env : Env) :
    finalExit env = runSteps env.cfg (deepExit env {}) Gen.exitSteps := by
  funext s
  simp only [finalExit, runSteps, Gen.exitSteps, resetStmt, guardOn, Step.seq, modifyCore, skip, reduceIte, Nat.reduceEqDiff,
    List.append_nil]

/-- in the source, `load()` discards the waiting request unconditionally and before it delivers anything -/
theorem C06_load_discards_request_first_in_source :
    (Gen.loadSteps.takeWhile (fun st => st.1 != 3)).contains (0, 0) = true := by decide

/-- **each reset is compiled under exactly the switch of the feature whose state it resets** — the request and the
    registry unconditionally, the plan data under PLANS, the recorded transition under TRANSITION_HISTORY — in
    `load()` and in the final exit alike (no reset of one feature sits inside another feature's `#if`) -/
theorem C19_resets_guarded_by_own_feature :
    ∀ st ∈ Gen.loadSteps ++ Gen.exitSteps,
      (st.1 = 0 → st.2 = 0) ∧ (st.1 = 1 → st.2 = 1) ∧ (st.1 = 2 → st.2 = 2) ∧ (st.1 = 3 → st.2 = 0) ∧ (st.1 = 4 → st.2 = 0) := by
  decide

end FFSM2
