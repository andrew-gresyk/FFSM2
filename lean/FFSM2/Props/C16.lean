import FFSM2.Lemmas.Blind
/-!
# C16 — Logging is faithful and does not perturb the machine

Which deliveries produce a method record without verbose logging (`recorded`, Q7) mirrors the C++
overload selection on the member pointer's class; that mechanism itself is C++ truth and is tied by
the correspondence (configurations mixing states that define all / some / none of the callbacks, own
vs inherited from an injection; plain and verbose builds; attach / detach ops).
-/
namespace FFSM2
open Step

/-- **faithful, method records**: a delivery's events are its method record (iff a logger is attached
    and the delivery is `recorded`), emitted before any user code of that delivery, followed by the
    layers; so every method record is immediately followed by the delivery it names -/
theorem C16_method_record_first (env : Env) (m : Method) (sid : Nat) (cur pend : Tr) (s : St) :
    (deliver env m sid cur pend s).2 =
      (if recorded env.cfg sid m then logEv env s.core (.method sid m) else []) ++
      (seqList ((Ancestors.deep (env.cfg.injections sid) m).map (deliverLayer env m sid cur pend)) s).2 := rfl

/-- with a logger attached: exactly one record, naming that state and method -/
theorem C16_one_record (env : Env) (hl : env.cfg.logging = true) (c : Core) (hc : c.logger = true) (r : LogRec) :
    logEv env c r = [.log env.inst r] := by simp [logEv, hl, hc]

/-- verbose logging records every delivery; otherwise exactly the `recorded` ones (Q7) — in
    particular every delivery to a state whose class defines the callback -/
theorem C16_recorded_defined (cfg : Cfg) (sid : Nat) (m : Method) (hs : sid ≠ 255 ∨ cfg.hasHead = true)
    (hd : cfg.defines sid m = true) : recorded cfg sid m = true := by
  have : (sid == 255 && !cfg.hasHead) = false := by
    rcases hs with h | h
    · simp [h]
    · simp [h]
  unfold recorded
  rw [this, hd]
  cases cfg.verbose
  · rw [if_neg Bool.false_ne_true, if_neg Bool.false_ne_true]
    split
    · rfl
    · cases m <;> rfl
  · rfl

/-- **every changeTo/changeWith, cancellation and succeed/fail produces exactly its record**, with the
    caller as origin and the requested destination / reported state, at the moment of the action -/
theorem C16_action_records (env : Env) (sid d p : Nat) (s : St) :
    (applyAction env sid (.changeTo d) s).2 = logEv env s.core (.transition sid d) ∧
    (applyAction env sid (.changeWith d p) s).2 = logEv env s.core (.transition sid d) ∧
    (applyAction env sid .cancel s).2 = logEv env s.core (.cancelled sid) ∧
    (applyAction env sid (.succeed none) s).2 = logEv env s.core (.taskStatus sid true) ∧
    (applyAction env sid (.fail (some d)) s).2 = logEv env s.core (.taskStatus d false) ∧
    (extChange env d none s).2 = logEv env s.core (.transition 255 d) := ⟨rfl, rfl, rfl, rfl, rfl, rfl⟩

/-- **non-interference**: for every API operation body, every configuration, behaviour and state —
    erasing the logger from the state commutes with the operation, and the trace with log records
    erased is the same whether a logger is attached or not: which callbacks run, their order, every
    observation they make, every action they perform and every resulting state are unaffected -/
theorem C16_noninterference (env : Env) (d : Nat) (buf : List Nat) :
    Blind (update env) ∧ Blind (react env) ∧ Blind (query env) ∧ Blind (processRequest env) ∧
    Blind (initialEnter env) ∧ Blind (finalExit env) ∧ Blind (replayTransition env d) ∧ Blind (load env buf) :=
  have L := blind_leaves env
  ⟨.of_sim (sim_cycle L (blind_planStep env) _ _ _), .of_sim (sim_cycle L (blind_planStep env) _ _ _), .of_sim (sim_query L),
   .of_sim (sim_processRequest L), .of_sim (sim_initialEnter L), .of_sim (sim_finalExit L),
   .of_sim (sim_replayTransition L (fun _ => rfl) d), .of_sim (sim_load L buf)⟩

/-- … including requests, task reports and plan edits made from outside -/
theorem C16_noninterference_actions (env : Env) (sid : Nat) (a : Action) : Blind (applyAction env sid a) :=
  .of_sim (sim_applyAction sid a (fun _ => blindView_agnostic) (blind_logEv env) rfl)

/-- non-vacuity: the same two-op history with and without a logger: identical up to the log records -/
example :
    let cfg : Cfg := { n := 2, L := 2, cap := 1 }
    let beh : Beh := fun k => if k.method = .update then [.changeTo 1, .succeed none] else []
    nolog (run cfg beh [.construct 0 true, .update 0]).2 = nolog (run cfg beh [.construct 0 false, .update 0]).2 ∧
    (run cfg beh [.construct 0 true, .update 0]).2.length > (run cfg beh [.construct 0 false, .update 0]).2.length := by
  decide +kernel

/-- **C16 over whole histories — logging never perturbs the machine.**  Take any history and the same
    history in which no logger is ever attached (`construct … false`, every `attachLogger` turned into a
    detach).  With the log records erased the two traces are identical — the same callbacks are delivered in
    the same order with the same observations, user code performs the same actions, every API call returns
    the same observation — and the final worlds are equal up to the `logger` flag itself. -/
theorem C16_history_noninterference (cfg : Cfg) (beh : Beh) (ops : List Op) :
    nolog (run cfg beh (ops.map Op.quiet)).2 = nolog (run cfg beh ops).2 ∧
    (run cfg beh (ops.map Op.quiet)).1 = stripW (run cfg beh ops).1 := by
  obtain ⟨h1, h2⟩ := runFrom_strip cfg beh ops [] 0
  exact ⟨h2, h1⟩

/-- … in particular a logger attached or detached *midway* changes nothing from then on either: two
    histories that differ only in their logger flags agree up to log records -/
theorem C16_history_logger_flags_irrelevant (cfg : Cfg) (beh : Beh) (ops ops' : List Op)
    (h : ops.map Op.quiet = ops'.map Op.quiet) :
    nolog (run cfg beh ops).2 = nolog (run cfg beh ops').2 ∧ stripW (run cfg beh ops).1 = stripW (run cfg beh ops').1 := by
  obtain ⟨a1, a2⟩ := C16_history_noninterference cfg beh ops
  obtain ⟨b1, b2⟩ := C16_history_noninterference cfg beh ops'
  rw [h] at a1 a2
  exact ⟨a1.symm.trans b1, a2.symm.trans b2⟩

end FFSM2
