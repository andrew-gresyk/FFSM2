import FFSM2.Props.History
import FFSM2.Lemmas.PlanStep
import FFSM2.Lemmas.NoPlan
import FFSM2.Props.C09
/-!
# C09 over whole histories: which plan outcome callback a call delivers, and why

`C09_history_update_outcomes` / `C09_history_react_outcomes` — any world, an active instance: the plan outcome
callbacks of the call are exactly those of its plan step, run from the state `s2` the three phases left
(`cyclePhases`); hence `planFailed` is delivered only if a failure is outstanding at that point (reported during this
call's phases, or the active state's failure bit), `planSucceeded` only if success is outstanding and no task remains,
and — whenever the active state's failure bit is set with a plan in existence, whether or not tasks remain —
`planFailed` *is* delivered in that same call.
-/
namespace FFSM2
open Step

theorem outcomes_inner : Inner outcomes := fun es _ _ _ h => by unfold outcomes; rw [ownSig_inner es h]

/-- a delivery of `planFailed` / `planSucceeded` -/
def Ev.isOutcome : Ev → Bool
  | .cb k _ _ => k.method == .planFailed || k.method == .planSucceeded
  | _ => false

theorem methodPred_isOutcome : MethodPred Ev.isOutcome :=
  ⟨fun e h => by cases e <;> first | rfl | cases h⟩

theorem outcome_excl {m : Method} (h1 : m ≠ .planFailed) (h2 : m ≠ .planSucceeded) : Excl Ev.isOutcome m := by
  intro k _ _ hk
  simp [Ev.isOutcome, hk, h1, h2]

theorem exclCore_isOutcome : ExclCore Ev.isOutcome :=
  ⟨outcome_excl nofun nofun, outcome_excl nofun nofun, outcome_excl nofun nofun, outcome_excl nofun nofun, outcome_excl nofun nofun⟩

/-- no plan outcome is delivered by an entry point other than `update()` / `react()` -/
theorem apiStep_noOutcome {cfg : Cfg} {w : World} {env : Env} {tag : ApiTag} {slot : Option Core} {c : Core} {f : Step}
    (h : ApiStep cfg w env tag slot c f) (h1 : tag.delivers .planFailed = false) (h2 : tag.delivers .planSucceeded = false) :
    Silent Ev.isOutcome f :=
  apiStep_silent methodPred_isOutcome h fun m hm =>
    outcome_excl (by rintro rfl; rw [hm] at h1; cases h1) (by rintro rfl; rw [hm] at h2; cases h2)

theorem outcomes_append (a b : List Ev) : outcomes (a ++ b) = outcomes a ++ outcomes b := by
  simp [outcomes, ownSig_append, List.filterMap_append]

theorem outcomes_of_silent {es : List Ev} (h : es.filter Ev.isOutcome = []) : outcomes es = [] :=
  List.filterMap_eq_nil_iff.mpr fun x hx =>
    if_neg (ownSig_method (q := fun m => m == .planFailed || m == .planSucceeded) (fun _ _ _ => List.filter_eq_nil_iff.mp h _) x hx)

theorem outcomes_step_of_silent {f : Step} (h : Silent Ev.isOutcome f) (s : St) : outcomes (f s).2 = [] := outcomes_of_silent (h s)

/-- the outcome callbacks of a cycle are those of its plan step -/
theorem outcomes_cycle_eq (env : Env) (pre mid post : Method)
    (h1 : Excl Ev.isOutcome pre) (h2 : Excl Ev.isOutcome mid) (h3 : Excl Ev.isOutcome post) (s : St) :
    outcomes (cycle env pre mid post s).2 =
      if env.cfg.plans then outcomes (planStep env (cyclePhases env pre mid post s).1).2 else [] := by
  rw [cycle_eq_phases]
  simp only [Step.seq, outcomes_append]
  rw [outcomes_step_of_silent (silent_cyclePhases methodPred_isOutcome env pre mid post h1 h2 h3), outcomes_step_of_silent (silent_processRequest methodPred_isOutcome exclCore_isOutcome env),
    List.nil_append, List.append_nil]
  split
  · rfl
  · rfl

/-- what the outcome callbacks of a cycle say about the state the phases left -/
def Warranted (env : Env) (s2 : St) (outs : List Method) : Prop :=
  outs.length ≤ 1 ∧
  (Method.planFailed ∈ outs → s2.core.subStatus = .failure ∨ getBit s2.core.fail s2.core.active = true) ∧
  (Method.planSucceeded ∈ outs → cycleStatus s2 = .success ∧ s2.core.plan = []) ∧
  (env.cfg.plans = true → getBit s2.core.fail s2.core.active = true → s2.core.planExists = true → outs = [.planFailed])

theorem warranted_cycle (env : Env) (pre mid post : Method)
    (h1 : Excl Ev.isOutcome pre) (h2 : Excl Ev.isOutcome mid) (h3 : Excl Ev.isOutcome post) (s : St) :
    Warranted env (cyclePhases env pre mid post s).1 (outcomes (cycle env pre mid post s).2) := by
  rw [outcomes_cycle_eq env pre mid post h1 h2 h3 s]
  by_cases hp : env.cfg.plans = true
  · simp only [hp, if_true]
    exact ⟨C09_exclusive env _, (C09_only_if env _).1, (C09_only_if env _).2, fun _ hf he => C09_failed_if env _ hf he⟩
  · simp only [hp, if_false, Bool.false_eq_true]
    exact ⟨Nat.zero_le _, (fun h => by cases h), (fun h => by cases h), (fun h => absurd h hp)⟩

/-- **C09 over whole histories: at most one plan outcome callback per API call**, and none at all outside
    `update()` / `react()` — in every call of every history, from any world -/
theorem C09_history_at_most_one (cfg : Cfg) (beh : Beh) (w : World) (k : Nat) (op : Op) :
    (outcomes (stepAll cfg beh w k op).2).length ≤ 1 ∧
    ((∀ i, op ≠ .update i) → (∀ i, op ≠ .react i) → outcomes (stepAll cfg beh w k op).2 = []) := by
  refine stepAll_inner outcomes_inner
    (T := fun o => o.length ≤ 1 ∧ ((∀ i, op ≠ .update i) → (∀ i, op ≠ .react i) → o = [])) cfg beh w k op
    ⟨Nat.zero_le _, fun _ _ => rfl⟩ ?_
    (fun c _ => by rw [outcomes_step_of_silent (silent_finalExit methodPred_isOutcome exclCore_isOutcome _)]; exact ⟨Nat.zero_le _, fun _ _ => rfl⟩)
  intro tag slot c f htag _ hf
  have hq := apiStep_noOutcome hf
  cases hf with
  | update =>
    exact ⟨(warranted_cycle _ .preUpdate .update .postUpdate (outcome_excl nofun nofun) (outcome_excl nofun nofun) (outcome_excl nofun nofun) _).1,
      fun h _ => absurd (Op.call_update htag) (h _)⟩
  | react =>
    exact ⟨(warranted_cycle _ .preReact .react .postReact (outcome_excl nofun nofun) (outcome_excl nofun nofun) (outcome_excl nofun nofun) _).1,
      fun _ h => absurd (Op.call_react htag) (h _)⟩
  | _ => rw [outcomes_step_of_silent (hq rfl rfl)]; exact ⟨Nat.zero_le _, fun _ _ => rfl⟩

/-- `update()` / `react()` on a core whose `planExists` flag is down: no outcome callback, flag still down -/
theorem cycle_noPlan (env : Env) (hb : NoAppendBeh env) (pre mid post : Method)
    (h1 : Excl Ev.isOutcome pre) (h2 : Excl Ev.isOutcome mid) (h3 : Excl Ev.isOutcome post) (s : St) (h : NoPlanQ s.core) :
    (cycle env pre mid post s).2.filter Ev.isOutcome = [] ∧ NoPlanQ (cycle env pre mid post s).1.core := by
  have hp := methodPred_isOutcome
  have hq1 := sat_cyclePhases (keeps_composes _) (fun _ h => h) (keepsNP_phase env hb pre _) (keepsNP_phase env hb mid _)
    (keepsNP_phase env hb post _) s h
  rw [cycle_eq_phases]
  simp only [Step.seq, List.filter_append, silent_cyclePhases hp env pre mid post h1 h2 h3 s, List.nil_append]
  have hmid : ((if env.cfg.plans then planStep env else skip) (cyclePhases env pre mid post s).1).2 = [] ∧
      NoPlanQ ((if env.cfg.plans then planStep env else skip) (cyclePhases env pre mid post s).1).1.core := by
    split
    · exact planStep_noPlan env _ hq1
    · exact ⟨rfl, hq1⟩
  rw [hmid.1]
  exact ⟨silent_processRequest hp exclCore_isOutcome env _, keepsNP_processRequest env hb _ hmid.2⟩

theorem query_keepsNP (env : Env) (hb : NoAppendBeh env) : Keeps NoPlanQ (query env) :=
  sat_query (keeps_composes _) fun _ => keepsNP_deliver env hb _ _ _ _

/-- an accepted call other than `plan().change…()`, on a core whose flag is down, by an instance whose
    callbacks append no task: no outcome callback is delivered and the flag stays down -/
theorem apiStep_noPlan {w : World} {env : Env} (hb : NoAppendBeh env) {tag : ApiTag} {slot : Option Core} {c : Core} {f : Step}
    (h : ApiStep env.cfg w env tag slot c f) (htag : tag ≠ .planAppend) (hc : NoPlanQ c) :
    (f { core := c }).2.filter Ev.isOutcome = [] ∧ NoPlanQ (f { core := c }).1.core := by
  -- outside `update()` / `react()` the entry point delivers no outcome at all; what is left is the flag
  have hq := apiStep_noOutcome h
  cases h with
  | constructManual | replayClear | attachLogger => exact ⟨rfl, hc⟩
  | constructAuto | enter => exact ⟨hq rfl rfl _, keepsNP_initialEnter env hb _ hc⟩
  | exit => exact ⟨hq rfl rfl _, keepsNP_finalExit env hb _ hc⟩
  | update | react => exact cycle_noPlan env hb _ _ _ (outcome_excl (by decide) (by decide)) (outcome_excl (by decide) (by decide)) (outcome_excl (by decide) (by decide)) _ hc
  | query => exact ⟨hq rfl rfl _, query_keepsNP env hb _ hc⟩
  | change => exact ⟨hq rfl rfl _, hc⟩
  | immediate c d p => exact ⟨hq rfl rfl _, (Keeps.seq (keepsNP_extChange env d p) (keepsNP_processRequest env hb)) _ hc⟩
  | status => exact ⟨hq rfl rfl _, keepsNP_extStatus env _ _ _ hc⟩
  | planAppend => exact absurd rfl htag
  | planEdit c a ha _ => exact ⟨hq rfl rfl _, keepsNP_applyAction env 255 a ha _ hc⟩
  | load => exact ⟨hq rfl rfl _, keepsNP_load env hb _ _ hc⟩
  | replayEnter => exact ⟨hq rfl rfl _, keepsNP_replayEnter env hb _ _ hc⟩
  | replayTransition => exact ⟨hq rfl rfl _, keepsNP_replayTransition env hb _ _ hc⟩

/-- the slot of instance `i` holds no machine, or one whose `planExists` flag is down -/
def SlotNoPlan (w : World) (i : Nat) : Prop := ∀ c, w.get i = some c → NoPlanQ c

theorem stepAll_noPlan (cfg : Cfg) (beh : Beh) (w : World) (k : Nat) (op : Op) (i : Nat)
    (hbeh : ∀ key : Key, key.inst = i → ∀ a ∈ beh key, a.isAppend = false)
    (hop : ∀ o d p, op ≠ .planAppend i o d p) (hcopy : ∀ src, op ≠ .copy i src) (hw : SlotNoPlan w i) :
    SlotNoPlan (stepAll cfg beh w k op).1 i ∧
    ∀ e ∈ (stepAll cfg beh w k op).2, e.inst = i → e.isOutcome = false := by
  by_cases hi : op.inst = i
  · subst hi
    have h := stepAll_call cfg beh w k op
    generalize stepAll cfg beh w k op = r at h
    have none_out : ∀ {es : List Ev}, es.filter Ev.isOutcome = [] → ∀ e ∈ es, e.inst = op.inst → e.isOutcome = false :=
      fun h0 e he _ => by simpa using List.filter_eq_nil_iff.mp h0 e he
    have hin := methodPred_isOutcome.inner
    have gone : SlotNoPlan (w.put op.inst none) op.inst := fun c' hc' => by rw [World.get_put_same] at hc'; cases hc'
    cases h with
    | idle hb => exact ⟨hw, none_out (hin [] hb)⟩
    | api htag hget hf hb =>
      obtain ⟨a1, a2⟩ := apiStep_noPlan (env := ⟨cfg, beh, op.inst, k⟩) hbeh hf
        (fun e => by subst e; obtain ⟨o, d, p, e⟩ := Op.call_planAppend htag; exact hop o d p e)
        (hf.start_of (fun _ => rfl) fun e => hw _ (hget.trans e))
      exact ⟨fun c' hc' => by rw [World.get_put_same] at hc'; cases hc'; exact a2, none_out ((hin _ hb).trans a1)⟩
    | destroyManual _ _ _ hb => exact ⟨gone, none_out (hin [] hb)⟩
    | destroyAuto _ _ _ hb =>
      exact ⟨gone, none_out ((hin _ hb).trans (silent_finalExit methodPred_isOutcome exclCore_isOutcome _ _))⟩
    | copy hcp => exact absurd hcp (hcopy _)
  · have hev := stepAll_events_inst cfg beh w k op
    refine ⟨fun c hc => hw c (by rw [stepAll_other cfg beh w k op i (fun e => hi e.symm)] at hc; exact hc), ?_⟩
    intro e he hei
    exact absurd ((hev e he).symm.trans hei) hi

/-- **C09 over whole histories — never on a machine to which no task was added.**  If neither the callbacks
    of instance `i` nor any API call ever append a task to `i`'s plan (and `i` is not created as a copy of a
    machine that has one), then in no history, whatever statuses are reported, whatever the storage held
    before, is `planSucceeded()` or `planFailed()` ever delivered to `i`. -/
theorem C09_history_never_without_task (cfg : Cfg) (beh : Beh) (ops : List Op) (i : Nat)
    (hbeh : ∀ key : Key, key.inst = i → ∀ a ∈ beh key, a.isAppend = false)
    (hops : ∀ o d p, Op.planAppend i o d p ∉ ops) (hcopy : ∀ src, Op.copy i src ∉ ops) :
    ∀ e ∈ (run cfg beh ops).2, e.inst = i → e.isOutcome = false :=
  runFrom_forall cfg beh (I := fun w => SlotNoPlan w i) ops 0
    (fun w k op hop _ hw => stepAll_noPlan cfg beh w k op i hbeh (fun o d p e => hops o d p (e ▸ hop)) (fun src e => hcopy src (e ▸ hop)) hw)
    [] (World.All.nil _ i)

theorem C09_history_update_outcomes (cfg : Cfg) (beh : Beh) (w : World) (k i : Nat) (c : Core)
    (hg : w.get i = some c) (ha : c.active ≠ 255) :
    Warranted ⟨cfg, beh, i, k⟩ (cyclePhases ⟨cfg, beh, i, k⟩ .preUpdate .update .postUpdate { core := c }).1
      (outcomes (stepAll cfg beh w k (.update i)).2) := by
  rw [stepAll_update cfg beh k hg ha, onCore_inner outcomes_inner]
  exact warranted_cycle ⟨cfg, beh, i, k⟩ .preUpdate .update .postUpdate
    (outcome_excl nofun nofun) (outcome_excl nofun nofun) (outcome_excl nofun nofun) _

theorem C09_history_react_outcomes (cfg : Cfg) (beh : Beh) (w : World) (k i : Nat) (c : Core)
    (hg : w.get i = some c) (ha : c.active ≠ 255) :
    Warranted ⟨cfg, beh, i, k⟩ (cyclePhases ⟨cfg, beh, i, k⟩ .preReact .react .postReact { core := c }).1
      (outcomes (stepAll cfg beh w k (.react i)).2) := by
  rw [stepAll_react cfg beh k hg ha, onCore_inner outcomes_inner]
  exact warranted_cycle ⟨cfg, beh, i, k⟩ .preReact .react .postReact
    (outcome_excl nofun nofun) (outcome_excl nofun nofun) (outcome_excl nofun nofun) _

/-- an outcome callback leaves the plan empty: whenever the plan step delivers one, the plan is empty right after it -/
theorem planStep_outcome_empties (env : Env) (s : St) (h : outcomes (planStep env s).2 ≠ []) :
    (planStep env s).1.core.plan = [] := by
  have hc := C09_planStep_cases env s
  by_cases hp : s.core.planExists = true
  · cases hst : cycleStatus s with
    | none => exact absurd (hc.1 (Or.inl hst)).1 h
    | failure => exact (hc.2.1 hst hp).2
    | success =>
      by_cases hpl : s.core.plan = []
      · exact (hc.2.2.2 hst hp hpl).2
      · exact absurd (hc.2.2.1 hst hp hpl) h
  · have hp' : s.core.planExists = false := by simpa using hp
    exact absurd (hc.1 (Or.inr hp')).1 h

/-- **C09 over whole histories — after an outcome callback the plan is empty.**  Any world, `update()` on an active
    instance: if the call delivers `planSucceeded()` or `planFailed()`, the plan at the end of the call consists of
    nothing but what user code appended *after* the plan step (during request processing): it is the edit trace of the
    events of that last part of the call applied to the empty plan. -/
theorem C09_history_plan_empty_after_outcome (cfg : Cfg) (beh : Beh) (w : World) (k i : Nat) (c : Core)
    (hg : w.get i = some c) (ha : c.active ≠ 255)
    (ho : outcomes (stepAll cfg beh w k (.update i)).2 ≠ []) :
    ∃ es12 es3, (stepAll cfg beh w k (.update i)).2 = es12 ++ es3 ∧
      ∀ c', (stepAll cfg beh w k (.update i)).1.get i = some c' → c'.plan = editsPlan cfg.cap es3 [] := by
  rw [stepAll_update cfg beh k hg ha] at ho ⊢
  let e : Env := ⟨cfg, beh, i, k⟩
  let r1 := cyclePhases e .preUpdate .update .postUpdate { core := c }
  let r2 := (if e.cfg.plans then planStep e else skip) r1.1
  let r3 := processRequest e r2.1
  have hcyc : update e { core := c } = (r3.1, (r1.2 ++ r2.2) ++ r3.2) := by
    show cycle e .preUpdate .update .postUpdate { core := c } = _
    rw [cycle_eq_phases]; rfl
  rw [onCore_inner outcomes_inner, show update e = cycle e .preUpdate .update .postUpdate from rfl,
    outcomes_cycle_eq e .preUpdate .update .postUpdate (outcome_excl nofun nofun) (outcome_excl nofun nofun) (outcome_excl nofun nofun)] at ho
  split at ho
  · rename_i hplans
    have hempty : r2.1.core.plan = [] := by
      rw [show r2 = planStep e r1.1 from congrFun (if_pos hplans) _]
      exact planStep_outcome_empties e _ ho
    refine ⟨r1.2 ++ r2.2, r3.2 ++ [.api i k "update" (apiObs cfg r3.1.core none)], ?_, ?_⟩
    · rw [onCore_snd, hcyc]; simp only [List.append_assoc]
    · intro c' hc'
      rw [onCore_get, hcyc] at hc'
      cases hc'
      rw [editsPlan_append, editsPlan_noEdit _ [_] _ (List.forall_mem_singleton.mpr rfl)]
      exact hempty ▸ planTrace_processRequest e r2.1
  · exact absurd rfl ho

/-- the active state the plan step sees is the one the call began in, whatever the phase callbacks request or report -/
theorem C09_history_phases_keep_active (env : Env) (pre mid post : Method) (s : St) :
    (cyclePhases env pre mid post s).1.core.active = s.core.active := (stable_phases env pre mid post s).1

/-- non-vacuity: a failure reported during `update` with a task in the plan delivers `planFailed` in that call -/
example :
    let cfg : Cfg := { n := 2, L := 2, cap := 2, plans := true }
    let beh : Beh := fun k => if k.method = .update ∧ k.sid = 0 then [.fail none] else []
    let w := (run cfg beh [.construct 0 false, .planAppend 0 0 1 none]).1
    outcomes (stepAll cfg beh w 2 (.update 0)).2 = [.planFailed] := by
  decide +kernel

end FFSM2
