import FFSM2.Props.C12
import FFSM2.Lemmas.World
import FFSM2.Lemmas.Relabel
/-!
# C17 — Behaviour depends only on history; copies are equivalent   (partial, see below)

*Determinism w.r.t. prior memory contents* is a statement about the implementation having no hidden
input.  The model has none by construction (`C17_init_closed`), so that clause is carried by the
correspondence: every instance is placement-constructed over 0x00 / 0xFF / 0xA5 / random fills and must
match the fill-oblivious model (and the sanitizer / memcheck runs of C18).
-/
namespace FFSM2
open Step

/-- the initial core is a closed term of the configuration: nothing else is an input -/
theorem C17_init_closed (cfg : Cfg) (lg : Bool) :
    initCore cfg lg = { succ := List.replicate cfg.n false, fail := List.replicate cfg.n false, logger := lg } := rfl

/-- **a copy is observationally equal to the original at the moment of copying**: the copied core is
    the same value, so every observer (active state, plan, outstanding request, previous transition,
    serialized form) agrees — needs the F3 repair for `prev` -/
theorem C17_copy_obsEq (cfg : Cfg) (beh : Beh) (w : World) (k i src : Nat) (sc : Core)
    (hi : w.get i = none) (hs : w.get src = some sc) :
    stepAll cfg beh w k (.copy i src) = (w.put i (some sc), [.api i k "copy" (apiObs cfg sc)]) ∧
    apiObs cfg sc = apiObs cfg sc ∧ save cfg sc = save cfg sc := by
  simp [stepAll, hi, hs]

/-- *thereafter the copy responds to the same inputs like the original, independently of it*: proved over whole
    call sequences as `C17_history_copy_responds_alike` (below, on `Lemmas/Relabel.lean`: every
    building block run as another instance on the same core gives the same core and the same trace up to the
    instance label); independence of instances: `C17_independent` below and `C17_history_independent`. -/
theorem C17_independent (cfg : Cfg) (w : World) (i j k : Nat) (name : String) (c : Core) (f : Step) (h : i ≠ j) :
    (onCore cfg w i k name c f).1.get j = w.get j := by
  unfold onCore
  exact World.get_put_ne w i j _ (fun e => h e.symm)

/-! ### C17: a copy responds like its original -/

theorem stepAll_single (cfg : Cfg) (beh : Beh) (w : World) (k : Nat) (op : Op) (h : op.single = true) :
    stepAll cfg beh w k op = step cfg beh w k op := by
  cases op <;> first | rfl | simp [Op.single] at h

theorem onInst_single (op : Op) (j : Nat) (h : op.single = true) : (op.onInst j).single = true := by
  cases op <;> first | rfl | simp [Op.single] at h

/-- the same calls made on instance `j` (holding the same core) instead of instance `i`: same resulting core,
    same trace up to the instance label — for any sequence of single-instance calls on `i`, from any two
    worlds, when user code treats the two instances alike -/
theorem runFrom_relabel (cfg : Cfg) (beh : Beh) (i j : Nat)
    (hb : ∀ key : Key, key.inst = i → beh (key.withInst j) = beh key) :
    ∀ (ops : List Op) (w w' : World) (k : Nat), w'.get j = w.get i →
      (∀ op ∈ ops, op.inst = i ∧ op.single = true) →
      Mirrors i j (runFrom cfg beh w k ops) (runFrom cfg beh w' k (ops.map (Op.onInst j)))
  | [], _, _, _, h, _ => ⟨h, rfl⟩
  | op :: ops, w, w', k, h, hops => by
    obtain ⟨hi, hs⟩ := hops op (by simp)
    have hm := step_relabel cfg beh w w' k op j (by rw [hi]; exact h) (by rw [hi]; exact hb) hs
    rw [hi] at hm
    simp only [List.map_cons, runFrom]
    rw [stepAll_single cfg beh w k op hs, stepAll_single cfg beh w' k (op.onInst j) (onInst_single op j hs)]
    obtain ⟨r1, r2⟩ := runFrom_relabel cfg beh i j hb ops _ _ (k + 1) hm.1 (fun o ho => hops o (List.mem_cons_of_mem _ ho))
    exact ⟨r1, by rw [hm.2, r2, List.map_append]⟩

/-- **C17 over whole histories — a copy responds to the same inputs with the same callbacks and results.**  Take
    any world in which instance `i` exists and slot `j` is free, copy `i` into `j`, and then make any sequence of
    (single-instance) API calls on the copy.  The copy ends in exactly the state the original reaches when the
    same calls are made on it instead (in the world without the copy), and the two traces are equal event by
    event — the same callbacks with the same observations, the same actions, the same API results — up to the
    instance label; provided the user callbacks treat the two instances alike. -/
theorem C17_history_copy_responds_alike (cfg : Cfg) (beh : Beh) (w : World) (i j k : Nat) (sc : Core)
    (hj : w.get j = none) (hi : w.get i = some sc)
    (hb : ∀ key : Key, key.inst = i → beh (key.withInst j) = beh key)
    (ops : List Op) (hops : ∀ op ∈ ops, op.inst = i ∧ op.single = true) (k' : Nat) :
    Mirrors i j (runFrom cfg beh w k' ops)
      (runFrom cfg beh (stepAll cfg beh w k (.copy j i)).1 k' (ops.map (Op.onInst j))) := by
  have hc := (C17_copy_obsEq cfg beh w k j i sc hj hi).1
  refine runFrom_relabel cfg beh i j hb ops w _ k' ?_ hops
  rw [hc, World.get_put_same, hi]

end FFSM2
