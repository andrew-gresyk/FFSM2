import FFSM2.Lemmas.Steps
/-!
# C02 — Transition outcome: last surviving request wins, applied only when processed

All statements quantify over every configuration `env.cfg`, every callback behaviour `env.beh`
(a universally quantified function `Key → List Action`) and every machine state `s`.
-/
namespace FFSM2
open Step

/-- **a request made through a control never changes the active state when it is made** and runs no
    enter/exit/reenter: true of every action of every control flavour -/
theorem C02_request_inert_control (env : Env) (sid : Nat) (a : Action) :
    Stable (applyAction env sid a) ∧ NoLife (applyAction env sid a) :=
  ⟨stable_applyAction env sid a, silent_applyAction methodPred_isLife env sid a⟩

/-- … and the same for `machine.changeTo / changeWith` from outside -/
theorem C02_request_inert_external (env : Env) (d : Nat) (p : Option Nat) (s : St) :
    (extChange env d p s).1.core.active = s.core.active ∧ (extChange env d p s).2.filter Ev.isLife = [] :=
  ⟨rfl, filter_logEv methodPred_isLife env s.core _⟩

/-- **a later request replaces an earlier unprocessed one**: whatever request was outstanding, after
    `changeTo d` from state `sid` the outstanding request is exactly `sid → d` -/
theorem C02_later_replaces_earlier (env : Env) (sid d : Nat) (s : St) :
    (applyAction env sid (.changeTo d) s).1.core.request = ⟨sid, d, none⟩ ∧
    ∀ p, (applyAction env sid (.changeWith d p) s).1.core.request = ⟨sid, d, some p⟩ :=
  ⟨rfl, fun _ => rfl⟩

/-- **outcome of processing** (`immediateChangeTo/With`, end of `update()/react()`): with `cur` the
    most recent request that was not cancelled by a guard —
    none ⇒ the active state is unchanged and no enter/exit/reenter runs;
    `cur.dest` active already ⇒ `reenter` alone; otherwise `exit(old)` then `enter(cur.dest)`. -/
theorem C02_outcome (env : Env) (s : St) :
    let cur := survivor {} (processRounds env s)
    (cur.valid = false → (processRequest env s).1.core.active = s.core.active ∧ sig (processRequest env s).2 = []) ∧
    (cur.valid = true → (processRequest env s).1.core.active = cur.dest ∧
      sig (processRequest env s).2 =
        if cur.dest != s.core.active then [(Method.exit, s.core.active), (Method.enter, cur.dest)]
        else [(Method.reenter, s.core.active)]) :=
  ⟨(processRequest_spec env s).2.2.2.1, (processRequest_spec env s).2.2.2.2⟩

/-- the whole `update()` / `react()`: nothing before the processing point touches the active state or
    runs a lifecycle callback, so the call's lifecycle is exactly that of its processing point -/
theorem C02_cycle_outcome (env : Env) (pre mid post : Method)
    (hpre : pre.isLife = false) (hmid : mid.isLife = false) (hpost : post.isLife = false) (s : St) :
    let s1 := (prelude env pre mid post s).1
    s1.core.active = s.core.active ∧
    (cycle env pre mid post s).1.core.active = (processRequest env s1).1.core.active ∧
    sig (cycle env pre mid post s).2 = sig (processRequest env s1).2 := by
  intro s1
  have hq := noLife_prelude env hpre hmid hpost
  refine ⟨(stable_prelude env pre mid post s).1, ?_, ?_⟩
  · rw [cycle_eq]; rfl
  · rw [cycle_eq, seq_snd, sig_append, sig_of_noLife hq, List.nil_append]

/-- non-vacuity: a two-round history — request to 1, its entry guard redirects to 2 and the redirect
    is vetoed — leaves the machine in state 1 (the survivor), entered exactly once -/
example :
    let cfg : Cfg := { n := 3, L := 4, cap := 3 }
    let beh : Beh := fun k =>
      if k.method = .entryGuard ∧ k.sid = 1 then [.changeTo 2]
      else if k.method = .entryGuard ∧ k.sid = 2 then [.cancel] else []
    let r := run cfg beh [.construct 0 false, .immediateChangeTo 0 1]
    (r.1.get 0).map (·.active) = some 1 ∧ sig r.2 = [(.enter, 255), (.enter, 0), (.exit, 0), (.enter, 1)] := by
  decide +kernel

end FFSM2
