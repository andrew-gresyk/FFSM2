import FFSM2.Lemmas.Steps
/-!
# C03 — Guards can veto: a cancelled transition is never applied
-/
namespace FFSM2
open Step

/-- **guard evaluation is pure**: a round of guards (processing or activation) never writes the
    registry and never runs enter/exit/reenter, whatever the guards do with their control -/
theorem C03_guards_pure (env : Env) (cur pend : Tr) :
    Stable (guardRound env cur pend) ∧ NoLife (guardRound env cur pend) ∧
    Stable (entryGuardRound env cur pend) ∧ NoLife (entryGuardRound env cur pend) :=
  ⟨stable_guardRound env cur pend, noLife_guardRound env cur pend,
   stable_entryGuardRound env cur pend, noLife_entryGuardRound env cur pend⟩

def Ev.isEntryGuard : Ev → Bool
  | .cb k _ _ => k.method == .entryGuard
  | _ => false

theorem methodPred_isEntryGuard : MethodPred Ev.isEntryGuard :=
  ⟨fun e h => by cases e <;> first | rfl | cases h⟩

/-- the first half of a processing round: fresh guard control, exit guard of the active state -/
def exitHalf (env : Env) (cur pend : Tr) : Step :=
  Step.modify (fun s => { s with ts := .none, cancelled := false }) ⋙
    (fun s => deliver env .exitGuard s.core.active cur pend s)

theorem exitHalf_eq (env : Env) (cur pend : Tr) (s : St) :
    exitHalf env cur pend s = deliver env .exitGuard s.core.active cur pend { s with ts := .none, cancelled := false } := by
  simp only [exitHalf, Step.seq, Step.modify, List.nil_append]

/-- **once the exit guard has cancelled, the entry guard is not consulted**: the round then consists of
    the exit-guard half alone, which delivers no `entryGuard` -/
theorem C03_exit_veto_skips_entry (env : Env) (cur pend : Tr) (s : St)
    (h : (exitHalf env cur pend s).1.cancelled = true) :
    guardRound env cur pend s = exitHalf env cur pend s ∧
    (guardRound env cur pend s).2.filter Ev.isEntryGuard = [] := by
  have heq : guardRound env cur pend s = exitHalf env cur pend s := by
    unfold guardRound
    show (exitHalf env cur pend ⋙ _) s = _
    simp only [Step.seq]
    rw [if_pos h]
    simp
  refine ⟨heq, ?_⟩
  rw [heq]
  unfold exitHalf
  exact (Silent.seq (silent_modify _ _)
    (silent_dep fun s0 => silent_deliver methodPred_isEntryGuard env .exitGuard
      (fun k _ _ hk => by simp [Ev.isEntryGuard, hk]) _ _ _)) s

/-- **a vetoed request is never the one applied**: the transition applied by processing is the
    starting value (nothing) or the pending transition of a round that was *not* vetoed -/
theorem C03_veto_respected (cur0 : Tr) (rounds : List (Tr × Bool)) :
    survivor cur0 rounds = cur0 ∨ ∃ r ∈ rounds, r.2 = false ∧ survivor cur0 rounds = r.1 :=
  survivor_cases cur0 rounds

/-- a request made from inside a guard is evaluated by a fresh round (it becomes that round's pending
    transition) or is left over at the limit — it is never applied blindly: every pending transition
    the loop evaluates is the request outstanding at that moment, and only non-vetoed ones survive
    (`C03_veto_respected`); the loop itself runs no lifecycle callback -/
theorem C03_rounds_only (env : Env) (fuel : Nat) (cur : Tr) (s : St) :
    (substLoop (guardRound env) fuel cur s).1.1.core.active = s.core.active ∧
    sig (substLoop (guardRound env) fuel cur s).2 = [] :=
  ⟨(substLoop_quiet _ (stable_guardRound env) (noLife_guardRound env) fuel cur s).1,
   substLoop_sig _ (stable_guardRound env) (noLife_guardRound env) fuel cur s⟩

/-- **replayEnter / replayTransition / load consult no guard**, by design -/
theorem C03_replay_no_guards (env : Env) (d : Nat) (buf : List Nat) :
    NoGuard (replayTransition env d) ∧ NoGuard (replayEnter env d) ∧ NoGuard (load env buf) ∧ NoGuard (finalExit env) :=
  ⟨noGuard_replayTransition env d, noGuard_replayEnter env d, noGuard_load env buf, noGuard_finalExit env⟩

end FFSM2
