import FFSM2.Lemmas.Reach
import FFSM2.Lemmas.OwnSig
/-!
# Run-level theorems: the per-call theorems lifted to every history

`run cfg beh ops` is the whole life of a world of machines: any number of instances, any interleaving
of API calls on them (`ops` arbitrary, including out-of-contract calls, which are rejected), any callback
behaviour `beh`.  The theorems here quantify over all of that.  This file holds the vocabulary the other
run-level files share (`actOf`, `sigOf`, `sig_inner` / `ownSig_inner`, `id_ne_255`) and

* `C01_history` — per instance, the lifecycle callbacks delivered over the *entire* history form one
  correctly paired path from "inactive" to whatever the instance is at the end.
* `C01_history_one_active` — at every API boundary of every history the active id is a real state or
  "none", and `isActive` is one-hot at it.
* `C10_history_capacity` — in every reachable state the plan is within the configured capacity and every
  task names real states.
* `C17_history_independent` — a call on one instance never changes, nor emits an event of, another.
* `C06_history_view`, `C05_history_events_in_calls` — what every delivery event of every history shows and carries.
-/
namespace FFSM2
open Step

/-- the active id of a slot (255: no machine there, or an inactive one) -/
def actOf : Option Core → Nat
  | none => 255
  | some c => c.active

/-- lifecycle signature of the events that belong to instance `i` -/
def sigOf (i : Nat) (es : List Ev) : List (Method × Nat) := sig (es.filter (fun e => e.inst == i))

theorem sigOf_append (i : Nat) (a b : List Ev) : sigOf i (a ++ b) = sigOf i a ++ sigOf i b := by
  simp [sigOf, List.filter_append]

theorem sigOf_own {i : Nat} {es : List Ev} (h : ∀ e ∈ es, e.inst = i) : sigOf i es = sig es := by
  unfold sigOf
  rw [List.filter_eq_self.mpr]
  intro e he
  simp [h e he]

theorem filter_inst_other {i j : Nat} {es : List Ev} (h : ∀ e ∈ es, e.inst = j) (hij : i ≠ j) :
    es.filter (fun e => e.inst == i) = [] :=
  List.filter_eq_nil_iff.mpr fun e he => by rw [h e he, beq_iff_eq]; exact hij.symm

theorem sigOf_other {i j : Nat} {es : List Ev} (h : ∀ e ∈ es, e.inst = j) (hij : i ≠ j) : sigOf i es = [] := by
  unfold sigOf; rw [filter_inst_other h hij]; rfl

theorem sig_logEv (env : Env) (c : Core) (r : LogRec) : sig (logEv env c r) = [] := by
  unfold logEv; split <;> rfl

theorem sig_api (i k : Nat) (name : String) (o : ApiObs) : sig [Ev.api i k name o] = [] := rfl
theorem sig_rejected (i k : Nat) (name : String) : sig [Ev.rejected i k name] = [] := rfl
theorem sig_inner : Inner sig := inner_filterMap sigEv fun h => by cases h <;> rfl
theorem ownSig_inner : Inner ownSig := inner_filterMap ownSigEv fun h => by cases h <;> rfl

/-- what holds of every machine of every history: the range invariant, and under automatic activation the
    machine is active.  There is no predicate "reachable": a theorem "from any reachable world" assumes `w.All (Live cfg)`
    (or `WorldOk`), or is stated of `(run cfg beh ops).1`; one that needs nothing of the world takes any `w`. -/
def Live (cfg : Cfg) (c : Core) : Prop := CoreOk cfg c ∧ (cfg.manual = false → c.active ≠ 255)

theorem World.All.worldOk {cfg : Cfg} {w : World} (h : w.All (Live cfg)) : WorldOk cfg w := fun i c hc => (h i c hc).1

theorem id_ne_255 {cfg : Cfg} (hwf : cfg.WF) {d : Nat} (hd : d < cfg.n) : d ≠ 255 := by
  have := hwf.n_le; omega

/-- activation from an inactive core: root `enter`, then `enter` of exactly one real state -/
theorem initialEnter_life (env : Env) (c : Core) (hc : c.active = 255) :
    LifePath c.active (sig (initialEnter env { core := c }).2) (initialEnter env { core := c }).1.core.active ∧
    (initialEnter env { core := c }).1.core.active ≠ 255 := by
  obtain ⟨d, h1, h2, h3⟩ := C01_initialEnter env { core := c }
  have hd : d ≠ 255 := by
    rcases h3 with rfl | ⟨r, hr, _, rfl⟩
    · decide
    · have := substRounds_pending_valid _ _ _ _ r hr
      simpa [Tr.valid] using this
  rw [h1, h2, hc]
  exact ⟨LifePath.activate hd (LifePath.nil _), hd⟩

theorem query_quiet (env : Env) (s : St) : sig (query env s).2 = [] ∧ (query env s).1.core.active = s.core.active :=
  ⟨sig_of_noLife (silent_query methodPred_isLife (life_excludes rfl) env) s,
   (sat_query stable_sees.toComposes (fun _ => stable_deliver env _ _ _ _) s).1⟩

/-- `load` of a saved well-formed source: the lifecycle it runs, for every combination of
    active / inactive receiver and source -/
theorem load_life (env : Env) (hwf : env.cfg.WF) (c sc : Core) (hsc : CoreOk env.cfg sc)
    (hm : env.cfg.manual = true ∨ (c.active ≠ 255 ∧ sc.active ≠ 255)) :
    LifePath c.active (sig (load env (save env.cfg sc) { core := c }).2) (load env (save env.cfg sc) { core := c }).1.core.active ∧
    (env.cfg.manual = false → (load env (save env.cfg sc) { core := c }).1.core.active ≠ 255) := by
  rcases hsc.active with ha | ha
  · have hne : sc.active ≠ 255 := id_ne_255 hwf ha
    rw [load_save_active env hwf sc ha]
    by_cases hc : c.active = 255
    · -- manual activation by load
      have hman : env.cfg.manual = true := hm.resolve_right fun h => h.1 hc
      rw [if_neg (by simp [hc]), if_pos hman]
      have hs := deepEnter_spec env {} { core := { c with requested := sc.active } }
      simp only [Step.seq, modifyCore, List.nil_append]
      rw [hs.1, hs.2.2, hc]
      exact ⟨LifePath.activate hne (LifePath.nil _), fun h => by rw [hman] at h; cases h⟩
    · obtain ⟨h1, h2⟩ := loadActive_spec env sc.active { core := c }
      rw [if_pos (by simpa using hc), h1, h2]
      exact ⟨.changeTo hc hne, fun _ => hne⟩
  · have hman : env.cfg.manual = true := hm.resolve_right fun h => h.2 ha
    rw [load_save_inactive env hwf hman sc ha]
    refine ⟨?_, fun h => by rw [hman] at h; cases h⟩
    split
    · rename_i hc
      obtain ⟨f1, f2⟩ := C01_finalExit env { core := c }
      rw [f1, f2]
      exact LifePath.deactivate (by simpa using hc) (LifePath.nil _)
    · exact LifePath.nil _

/-- every accepted API call runs a correctly paired piece of lifecycle, from the core's active state to
    its new active state; under automatic activation the machine is active afterwards -/
theorem apiStep_life {w : World} {env : Env} (hwf : env.cfg.WF) (hw : WorldOk env.cfg w) {tag : ApiTag} {slot : Option Core} {c : Core} {f : Step}
    (h : ApiStep env.cfg w env tag slot c f) (hauto : env.cfg.manual = false → slot = some c → c.active ≠ 255) :
    actOf slot = c.active ∧
    LifePath c.active (sig (f { core := c }).2) (f { core := c }).1.core.active ∧
    (env.cfg.manual = false → (f { core := c }).1.core.active ≠ 255) := by
  cases h with
  | constructManual lg hm => exact ⟨rfl, LifePath.nil _, fun h => by rw [hm] at h; cases h⟩
  | constructAuto lg hm => exact ⟨rfl, (initialEnter_life env _ rfl).imp_right fun h _ => h⟩
  | enter c hm ha hv => exact ⟨rfl, (initialEnter_life env c ha).imp_right fun h _ => h⟩
  | exit c hm ha =>
    obtain ⟨f1, f2⟩ := C01_finalExit env { core := c }
    refine ⟨rfl, ?_, fun h => by rw [hm] at h; cases h⟩
    rw [f1, f2]
    exact LifePath.deactivate ha (LifePath.nil _)
  | update c ha | react c ha => exact ⟨rfl, (C01_cycle env _ _ _ rfl rfl rfl { core := c } ha).imp_right fun h _ => h⟩
  | query c ha =>
    obtain ⟨h1, h2⟩ := query_quiet env { core := c }
    rw [h1, h2]
    exact ⟨rfl, LifePath.nil _, fun _ => ha⟩
  | change c d p ha hd =>
    refine ⟨rfl, ?_, fun _ => ha⟩
    show LifePath c.active (sig (logEv env c (.transition 255 d))) c.active
    rw [sig_logEv]; exact LifePath.nil _
  | immediate c d p ha hd =>
    have hp := C01_processRequest env { core := { c with request := ⟨255, d, p⟩ } } ha
    rw [immediate_eq, sig_append, sig_logEv]
    exact ⟨rfl, hp.1, fun _ => hp.2⟩
  | status c id ok =>
    have ha : (extStatus env id ok { core := c }).1.core.active = c.active := by cases ok <;> rfl
    have hs : sig (extStatus env id ok { core := c }).2 = [] := sig_logEv _ _ _
    rw [ha, hs]
    exact ⟨rfl, LifePath.nil _, fun hm => hauto hm rfl⟩
  | planAppend | planEdit =>
    rw [(stable_applyAction env 255 _ _).1, sig_of_noLife (silent_applyAction methodPred_isLife env 255 _)]
    exact ⟨rfl, LifePath.nil _, fun hm => hauto hm rfl⟩
  | load c sc src hsrc hm => exact ⟨rfl, load_life env hwf c sc (hw src sc hsrc) hm⟩
  | replayEnter c d _ hm ha hd =>
    have hs := deepEnter_spec env {} { core := { c with requested := d, prev := ⟨255, d, none⟩ } }
    refine ⟨rfl, ?_, fun h => by rw [hm] at h; cases h⟩
    unfold replayEnter
    simp only [Step.seq, modifyCore, applyRequest_fresh (id_ne_255 hwf hd), List.nil_append, List.append_nil]
    rw [hs.1, hs.2.2, ha]
    exact LifePath.activate (id_ne_255 hwf hd) (LifePath.nil _)
  | replayClear c _ ha => exact ⟨rfl, LifePath.nil _, fun _ => ha⟩
  | replayTransition c d _ ha hd =>
    obtain ⟨h1, h2⟩ := C01_replayTransition env d (id_ne_255 hwf hd) { core := c } ha
    rw [h2]
    exact ⟨rfl, h1, fun _ => id_ne_255 hwf hd⟩
  | attachLogger c on => exact ⟨rfl, LifePath.nil _, fun hm => hauto hm rfl⟩

/-- one API call on instance `op.inst`, any world: the call's lifecycle is a correctly paired path from
    the instance's active state before to its active state after — unless the call creates the instance as
    a copy (it then starts where the original is, C17) or destroys a manually activated machine that was
    never exited (the library runs nothing there) -/
theorem C01_stepAll (cfg : Cfg) (hwf : cfg.WF) (beh : Beh) (w : World) (k : Nat) (op : Op) (hw : w.All (Live cfg))
    (hcopy : ∀ src, op ≠ .copy op.inst src) (hdes : cfg.manual = true → op ≠ .destroy op.inst) :
    LifePath (actOf (w.get op.inst)) (sig (stepAll cfg beh w k op).2) (actOf ((stepAll cfg beh w k op).1.get op.inst)) := by
  have h := stepAll_call cfg beh w k op
  generalize stepAll cfg beh w k op = r at h
  cases h with
  | idle hb => rw [← List.nil_append [_], sig_inner [] hb]; exact LifePath.nil _
  | api _ hget hf hb =>
    obtain ⟨e1, e2, _⟩ := apiStep_life (env := ⟨cfg, beh, op.inst, k⟩) hwf hw.worldOk hf
      (fun hm e => (hw _ _ (hget.trans e)).2 hm)
    rw [World.get_put_same, sig_inner _ hb, hget, e1]
    exact e2
  | destroyManual hop hm => exact absurd hop (hdes hm)
  | destroyAuto _ hm hget hb =>
    obtain ⟨_, f2⟩ := C01_finalExit ⟨cfg, beh, op.inst, k⟩ { core := _ }
    rw [World.get_put_same, sig_inner _ hb, hget, f2]
    exact LifePath.deactivate ((hw _ _ hget).2 hm) (LifePath.nil _)
  | copy hop => exact absurd hop (hcopy _)

theorem stepAll_live (cfg : Cfg) (hwf : cfg.WF) (beh : Beh) (w : World) (k : Nat) (op : Op) (hw : w.All (Live cfg)) :
    (stepAll cfg beh w k op).1.All (Live cfg) :=
  stepAll_all cfg beh k op hw fun hf hc =>
    ⟨apiStep_keeps (env := ⟨cfg, beh, op.inst, k⟩) hwf hw.worldOk hf _ (hf.start_of (coreOk_init cfg) fun e => (hc e).1),
     (apiStep_life (env := ⟨cfg, beh, op.inst, k⟩) hwf hw.worldOk hf fun hm e => (hc e).2 hm).2.2⟩

theorem run_live (cfg : Cfg) (hwf : cfg.WF) (beh : Beh) (ops : List Op) : (run cfg beh ops).1.All (Live cfg) :=
  runFrom_inv cfg beh (stepAll_live cfg hwf beh) ops 0 [] (World.All.nil _)

theorem C01_runFrom (cfg : Cfg) (hwf : cfg.WF) (beh : Beh) (i : Nat) (ops : List Op) (w : World) (k : Nat) (hw : w.All (Live cfg))
    (hcopy : ∀ src, Op.copy i src ∉ ops) (hdes : cfg.manual = true → Op.destroy i ∉ ops) :
    LifePath (actOf (w.get i)) (sigOf i (runFrom cfg beh w k ops).2) (actOf ((runFrom cfg beh w k ops).1.get i)) := by
  refine (runFrom_induct cfg beh (I := World.All (Live cfg))
    (R := fun a es b => LifePath (actOf (a.get i)) (sigOf i es) (actOf (b.get i)))
    (fun _ => LifePath.nil _) (fun h1 h2 => by rw [sigOf_append]; exact LifePath.append h1 h2) ops k ?_ w hw).2
  intro w k op hop _ hw
  refine ⟨stepAll_live cfg hwf beh w k op hw, ?_⟩
  have hev := stepAll_events_inst cfg beh w k op
  by_cases hi : op.inst = i
  · subst hi
    rw [sigOf_own hev]
    exact C01_stepAll cfg hwf beh w k op hw (fun src e => hcopy src (e ▸ hop)) (fun hm e => hdes hm (e ▸ hop))
  · rw [sigOf_other hev (fun e => hi e.symm), stepAll_other cfg beh w k op i (fun e => hi e.symm)]
    exact LifePath.nil _

/-- **C01 over whole histories.**  For every configuration, every callback behaviour and every sequence of
    API calls on any number of instances: the `enter` / `exit` / `reenter` callbacks delivered to instance
    `i` over the entire history form one correctly paired path that starts from "no state active" and ends
    at the instance's current active state (255 if it is inactive or gone) — every `enter(X)` is matched by
    `exit(X)` before any other `enter`, `reenter(X)` only occurs while `X` is the entered state, root
    enter/exit bracket each activation.  (The two exclusions are the calls that by design run no callback:
    creating `i` as a copy, and destroying a manually activated machine.) -/
theorem C01_history (cfg : Cfg) (hwf : cfg.WF) (beh : Beh) (ops : List Op) (i : Nat)
    (hcopy : ∀ src, Op.copy i src ∉ ops) (hdes : cfg.manual = true → Op.destroy i ∉ ops) :
    LifePath 255 (sigOf i (run cfg beh ops).2) (actOf ((run cfg beh ops).1.get i)) :=
  C01_runFrom cfg hwf beh i ops [] 0 (World.All.nil _) hcopy hdes

/-- **exactly one state is active, at every API boundary of every history**: the active id of every
    existing instance is a real state or "none", `isActive` is one-hot at it, and under automatic
    activation it is never "none" -/
theorem C01_history_one_active (cfg : Cfg) (hwf : cfg.WF) (beh : Beh) (ops : List Op) (i : Nat) (c : Core)
    (h : (run cfg beh ops).1.get i = some c) :
    (c.active < cfg.n ∨ c.active = 255) ∧
    (∀ j, j < cfg.n → (apiObs cfg c).isActive.getD j false = decide (c.active = j)) ∧
    (cfg.manual = false → c.active < cfg.n) := by
  obtain ⟨hok, hauto⟩ := run_live cfg hwf beh ops i c h
  exact ⟨hok.active, (C01_active_observation cfg c hok.active hwf.n_le).2.1, fun hm => hok.active.resolve_right (hauto hm)⟩

/-- **C10 over whole histories**: in every state any history can reach, the plan holds at most the
    configured number of tasks and every task names real states -/
theorem C10_history_capacity (cfg : Cfg) (hwf : cfg.WF) (beh : Beh) (ops : List Op) (i : Nat) (c : Core)
    (h : (run cfg beh ops).1.get i = some c) :
    c.plan.length ≤ cfg.cap ∧ ∀ t ∈ c.plan, t.origin < cfg.n ∧ t.dest < cfg.n :=
  ⟨(run_worldOk cfg hwf beh ops i c h).planLen, (run_worldOk cfg hwf beh ops i c h).plan⟩

/-- **C17 over whole histories — instances are independent**: an API call made on one instance leaves
    every other instance's state exactly as it was and every event it produces belongs to the instance it
    was made on; so what a copy does after the copy was taken can never reach back into the original -/
theorem C17_history_independent (cfg : Cfg) (beh : Beh) (w : World) (k : Nat) (op : Op) (j : Nat) (hj : j ≠ op.inst) :
    (stepAll cfg beh w k op).1.get j = w.get j ∧ sigOf j (stepAll cfg beh w k op).2 = [] ∧
    (stepAll cfg beh w k op).2.filter (fun e => e.inst == j) = [] :=
  have hev := stepAll_events_inst cfg beh w k op
  ⟨stepAll_other cfg beh w k op j hj, sigOf_other hev hj, filter_inst_other hev hj⟩

/-! ### every event of every history -/

/-- a predicate that holds of everything the calls of a history can emit holds of every event of the history;
    `hP` may use which call of the history it is asked about -/
theorem runFrom_allEv (cfg : Cfg) (beh : Beh) (P : Ev → Prop) (ops : List Op) (k0 : Nat)
    (hP : ∀ i k, k < k0 + ops.length → EnvPred ⟨cfg, beh, i, k⟩ P) (hb : ∀ {i k b}, CallEnd i k b → P b) (w : World) :
    ∀ e ∈ (runFrom cfg beh w k0 ops).2, P e :=
  runFrom_forall cfg beh (I := fun _ => True) ops k0
    (fun w k op _ hk _ => ⟨trivial, stepAll_allEv (hP op.inst k hk) (fun _ => hb) w⟩) w trivial

/-- what a delivery's control object shows: its own id is the state the delivery is keyed to, `isActive(j)`
    is one-hot at the machine's active state -/
def ViewOk (cfg : Cfg) : Ev → Prop
  | .cb k _ o => o.stateId = k.sid ∧ o.ctlActive = (List.range cfg.n).map (fun j => o.machActive == j)
  | _ => True

/-- **C06 over whole histories — every callback of every history sees a consistent control**: for every
    delivery event (every layer: injections and the state's own callback, every control flavour) of every
    history, `control.stateId()` is the id of the state the callback belongs to, and `control.isActive(j)`
    answers exactly `j == the machine's active state` for every `j` (including 0). -/
theorem C06_history_view (cfg : Cfg) (beh : Beh) (ops : List Op) : ∀ e ∈ (run cfg beh ops).2, ViewOk cfg e :=
  runFrom_allEv cfg beh (ViewOk cfg) ops 0
    (fun _ _ _ => ⟨fun _ _ _ _ _ _ _ => ⟨rfl, rfl⟩, fun _ _ _ _ => trivial, fun _ => trivial⟩)
    (fun h => by cases h <;> trivial) []

/-- … and every event carries the index of the call that produced it: no callback runs outside an API call -/
theorem C05_history_events_in_calls (cfg : Cfg) (beh : Beh) (ops : List Op) :
    ∀ e ∈ (run cfg beh ops).2, ∀ k vis o, e = Ev.cb k vis o → k.op < ops.length := by
  -- every delivery of call `k0` is keyed to `k0`
  refine runFrom_allEv cfg beh _ ops 0 (fun _ k0 hk => ⟨?_, ?_, ?_⟩) (fun hb k vis o e => by cases hb <;> cases e) []
  · intro _ _ _ _ _ _ _ k vis o e; cases e; exact (Nat.zero_add ops.length ▸ hk :)
  · intro _ _ _ _ k vis o e; cases e
  · intro _ k vis o e; cases e

/-- non-vacuity: two instances interleaved, a copy, a vetoed request; instance 0's path is paired and the
    hypotheses of `C01_history` hold for it -/
example :
    let cfg : Cfg := { n := 3, L := 2, cap := 1 }
    let beh : Beh := fun k => if k.method = .exitGuard ∧ k.op = 4 then [.cancel] else []
    let ops : List Op := [.construct 0 false, .construct 1 false, .immediateChangeTo 0 1, .copy 2 0, .immediateChangeTo 0 2,
                          .immediateChangeTo 1 2, .update 0, .destroy 0]
    sigOf 0 (run cfg beh ops).2 = [(.enter, 255), (.enter, 0), (.exit, 0), (.enter, 1), (.exit, 1), (.exit, 255)] ∧
    sigOf 1 (run cfg beh ops).2 = [(.enter, 255), (.enter, 0), (.exit, 0), (.enter, 2)] ∧
    (∀ src, Op.copy 0 src ∉ ops) := by
  refine ⟨by decide +kernel, by decide +kernel, ?_⟩
  intro src h
  simp at h

end FFSM2
