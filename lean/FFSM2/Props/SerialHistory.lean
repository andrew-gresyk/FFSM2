import FFSM2.Props.History
import FFSM2.Props.C12
/-!
# C12 over whole histories: what `save()` / `load()` do in any world a history can reach

* `C12_history_roundtrip` — after `replica.load(authority.save())` the replica's active state is the authority's;
* `C12_history_load_lifecycle` — active loader, active saver: `load()` runs exactly `exit(old); enter(new)`, or
  `reenter()` alone when the loader is already in the saver's state, and consults no guard;
* `C12_history_load_final_exit` — manual activation, inactive saver, active loader: exactly the final exit;
* `C12_history_load_initial_enter` — manual activation, active saver, inactive loader: exactly the initial enter;
* `C12_history_load_inactive_noop` — manual activation, both inactive: nothing runs;
* `C12_history_save_inert` — `save()` changes nothing in the world and delivers no callback; its buffer has
  exactly the declared byte count;
* `C12_history_buffers_canonical` — any two existing instances for which `save()` is in contract produce equal
  buffers if and only if their activity is the same.
-/
namespace FFSM2
open Step BitStream

/-- **C12 over whole histories — a replica loaded from a saved authority is in the authority's state.**  In
    every world any history can reach, for any two existing instances for which `save`/`load` is in contract
    (serialization enabled; manual activation, or both machines active): after `replica.load(authority.save())`
    the replica's active state is exactly the authority's (both inactive included). -/
theorem C12_history_roundtrip (cfg : Cfg) (hwf : cfg.WF) (beh : Beh) (ops : List Op) (i src k : Nat) (c sc : Core)
    (hi : (run cfg beh ops).1.get i = some c) (hs : (run cfg beh ops).1.get src = some sc)
    (hcond : (cfg.serialization && (cfg.manual || (c.active != 255 && sc.active != 255))) = true) :
    actOf ((stepAll cfg beh (run cfg beh ops).1 k (.load i src)).1.get i) = sc.active := by
  have hok := run_worldOk cfg hwf beh ops src sc hs
  generalize (run cfg beh ops).1 = w at hi hs
  rw [stepAll_load cfg beh k hi hs hcond, onCore_get]
  simp only [Bool.and_eq_true, Bool.or_eq_true, bne_iff_ne] at hcond
  show (load ⟨cfg, beh, i, k⟩ (save cfg sc) { core := c }).1.core.active = sc.active
  rcases hok.active with ha | ha
  · exact (C12_roundtrip_active ⟨cfg, beh, i, k⟩ hwf sc ha { core := c } (hcond.2.symm.imp_left And.left)).1
  · rw [ha]
    exact C12_roundtrip_inactive ⟨cfg, beh, i, k⟩ hwf (hcond.2.resolve_right fun h => h.2 ha) sc ha { core := c }


/-- **load performs exactly the lifecycle needed and consults no guards** (active loader, active saver) -/
theorem C12_history_load_lifecycle (cfg : Cfg) (hwf : cfg.WF) (beh : Beh) (ops : List Op) (k i src : Nat) (c sc : Core)
    (hi : (run cfg beh ops).1.get i = some c) (hs : (run cfg beh ops).1.get src = some sc)
    (hser : cfg.serialization = true) (ha : c.active ≠ 255) (hsa : sc.active ≠ 255) :
    sig (stepAll cfg beh (run cfg beh ops).1 k (.load i src)).2 =
      (if sc.active != c.active then [(.exit, c.active), (.enter, sc.active)] else [(.reenter, c.active)]) ∧
    (stepAll cfg beh (run cfg beh ops).1 k (.load i src)).2.filter Ev.isGuard = [] := by
  have hlt := (run_worldOk cfg hwf beh ops src sc hs).active.resolve_right hsa
  rw [stepAll_load cfg beh k hi hs (load_cond hser (.inr ⟨ha, hsa⟩)), onCore_inner sig_inner, onCore_inner methodPred_isGuard.inner]
  exact ⟨C12_load_lifecycle ⟨cfg, beh, i, k⟩ hwf sc hlt { core := c } ha, noGuard_load ⟨cfg, beh, i, k⟩ _ { core := c }⟩

/-- **manual activation, inactive saver, active loader**: `load()` is the loader's final exit -/
theorem C12_history_load_final_exit (cfg : Cfg) (hwf : cfg.WF) (beh : Beh) (w : World) (k i src : Nat) (c sc : Core)
    (hi : w.get i = some c) (hs : w.get src = some sc)
    (hser : cfg.serialization = true) (hm : cfg.manual = true) (ha : c.active ≠ 255) (hsa : sc.active = 255) :
    sig (stepAll cfg beh w k (.load i src)).2 = [(.exit, c.active), (.exit, 255)] ∧
    actOf ((stepAll cfg beh w k (.load i src)).1.get i) = 255 := by
  rw [stepAll_load cfg beh k hi hs (load_cond hser (.inl hm)), onCore_inner sig_inner, onCore_get,
    load_save_inactive ⟨cfg, beh, i, k⟩ hwf hm sc hsa, if_pos (bne_iff_ne.mpr ha)]
  exact ⟨(C01_finalExit _ _).2, (C01_finalExit _ _).1⟩

/-- **manual activation, active saver, inactive loader**: `load()` is the initial enter into the saver's state -/
theorem C12_history_load_initial_enter (cfg : Cfg) (hwf : cfg.WF) (beh : Beh) (ops : List Op) (k i src : Nat) (c sc : Core)
    (hi : (run cfg beh ops).1.get i = some c) (hs : (run cfg beh ops).1.get src = some sc)
    (hser : cfg.serialization = true) (hm : cfg.manual = true) (ha : c.active = 255) (hsa : sc.active ≠ 255) :
    sig (stepAll cfg beh (run cfg beh ops).1 k (.load i src)).2 = [(.enter, 255), (.enter, sc.active)] ∧
    actOf ((stepAll cfg beh (run cfg beh ops).1 k (.load i src)).1.get i) = sc.active ∧
    (stepAll cfg beh (run cfg beh ops).1 k (.load i src)).2.filter Ev.isGuard = [] := by
  have hlt := (run_worldOk cfg hwf beh ops src sc hs).active.resolve_right hsa
  generalize (run cfg beh ops).1 = w at hi hs
  rw [stepAll_load cfg beh k hi hs (load_cond hser (.inl hm)), onCore_inner sig_inner, onCore_get, onCore_inner methodPred_isGuard.inner,
    noGuard_load ⟨cfg, beh, i, k⟩ _ { core := c }, load_save_active ⟨cfg, beh, i, k⟩ hwf sc hlt,
    if_neg (show ¬ (c.active != 255) = true by simp [ha]), if_pos hm]
  simp only [Step.seq, modifyCore, List.nil_append]
  exact ⟨(deepEnter_spec _ {} _).2.2, (deepEnter_spec _ {} _).1, trivial⟩

/-- **manual activation, both inactive**: nothing runs, the loader stays inactive -/
theorem C12_history_load_inactive_noop (cfg : Cfg) (hwf : cfg.WF) (beh : Beh) (w : World) (k i src : Nat) (c sc : Core)
    (hi : w.get i = some c) (hs : w.get src = some sc)
    (hser : cfg.serialization = true) (hm : cfg.manual = true) (ha : c.active = 255) (hsa : sc.active = 255) :
    (stepAll cfg beh w k (.load i src)).2.filter Ev.isCb = [] ∧
    (stepAll cfg beh w k (.load i src)).1.get i = some c := by
  rw [stepAll_load cfg beh k hi hs (load_cond hser (.inl hm)), onCore_inner methodPred_isCb.inner, onCore_get,
    load_save_inactive ⟨cfg, beh, i, k⟩ hwf hm sc hsa, if_neg (show ¬ (c.active != 255) = true by simp [ha])]
  exact ⟨rfl, rfl⟩

/-- **`save()` does not modify the machine** — nor any other instance — **and runs no user code**; the buffer
    it returns has exactly the declared byte count -/
theorem C12_history_save_inert (cfg : Cfg) (hwf : cfg.WF) (beh : Beh) (ops : List Op) (k i : Nat) (c : Core)
    (hi : (run cfg beh ops).1.get i = some c) (hser : cfg.serialization = true) (ha : c.active ≠ 255) :
    (stepAll cfg beh (run cfg beh ops).1 k (.save i)).1 = (run cfg beh ops).1 ∧
    (stepAll cfg beh (run cfg beh ops).1 k (.save i)).2 =
      [.api i k "save" (apiObs cfg c none (some (save cfg c)))] ∧
    (save cfg c).length = byteCount (serialBits cfg) := by
  have hlt := (run_worldOk cfg hwf beh ops i c hi).active.resolve_right ha
  generalize (run cfg beh ops).1 = w at hi
  have hcond : (cfg.serialization && (cfg.manual || c.active != 255)) = true := by
    simp [hser, ha]
  have he : effectAll ⟨cfg, beh, i, k⟩ w (.save i) = .peek c (save cfg c) := (congrArg (effect _ w _) hi).trans (if_pos hcond)
  simp only [stepAll_eq, Op.inst, he]
  exact ⟨rfl, rfl, (C12_save_within_capacity cfg hwf c hlt).1⟩

theorem save_inactive_eq (cfg : Cfg) (c1 c2 : Core) (h1 : c1.active = 255) (h2 : c2.active = 255) :
    save cfg c1 = save cfg c2 := by
  simp [save, h1, h2]

/-- **two machines produce equal buffers if and only if their activity is equal** — for any two instances of a
    reachable world for which `save()` is in contract (manual activation, or both active) -/
theorem C12_history_buffers_canonical (cfg : Cfg) (hwf : cfg.WF) (beh : Beh) (ops : List Op) (i j : Nat) (ci cj : Core)
    (hi : (run cfg beh ops).1.get i = some ci) (hj : (run cfg beh ops).1.get j = some cj)
    (hc : cfg.manual = true ∨ (ci.active ≠ 255 ∧ cj.active ≠ 255)) :
    save cfg ci = save cfg cj ↔ ci.active = cj.active := by
  rcases (run_worldOk cfg hwf beh ops i ci hi).active with h1 | h1 <;>
    rcases (run_worldOk cfg hwf beh ops j cj hj).active with h2 | h2
  · exact C12_canonical cfg hwf ci cj h1 h2
  · have hm := hc.resolve_right fun h => h.2 h2
    exact ⟨fun e => absurd e.symm (C12_canonical_inactive cfg hwf hm cj ci h2 h1), fun e => absurd (e.trans h2) (id_ne_255 hwf h1)⟩
  · have hm := hc.resolve_right fun h => h.1 h1
    exact ⟨fun e => absurd e (C12_canonical_inactive cfg hwf hm ci cj h1 h2), fun e => absurd (e.symm.trans h1) (id_ne_255 hwf h2)⟩
  · exact ⟨fun _ => h1.trans h2.symm, fun _ => save_inactive_eq cfg ci cj h1 h2⟩

/-- non-vacuity: instance 0 (state 0) loads instance 1's state 2, then its own state again -/
example :
    let cfg : Cfg := { n := 3, L := 2, cap := 2, serialization := true }
    let beh : Beh := fun _ => []
    let w := (run cfg beh [.construct 0 false, .construct 1 false, .immediateChangeTo 1 2]).1
    sig (stepAll cfg beh w 3 (.load 0 1)).2 = [(.exit, 0), (.enter, 2)] ∧
    sig (stepAll cfg beh w 3 (.load 0 0)).2 = [(.reenter, 0)] := by
  decide +kernel

end FFSM2
