import FFSM2.Props.History
import FFSM2.Lemmas.GuardCount
import FFSM2.Props.C04
/-!
# C04 over whole histories: how often guards run within one API call, counted on the events user code sees
-/
namespace FFSM2
open Step

theorem guardSig_inner : Inner guardSig := fun es _ _ _ h => by unfold guardSig; rw [ownSig_inner es h]

theorem noGuard_applySurvivor (env : Env) (cur : Tr) : NoGuard (applySurvivor env cur) :=
  (emits_applySurvivor (life_noGuard _)).silent methodPred_isGuard

/-- request processing delivers `exitGuard` exactly once per evaluated round and `entryGuard` at most once -/
theorem substThen_guard_counts {round : Tr → Tr → Step} {a b : Nat} (P : ∀ c p, GuardCounts a b (round c p)) (fuel : Nat)
    {k : Tr → Step} (hk : ∀ t, NoGuard (k t)) (s : St) :
    countM .exitGuard (guardSig (substThen round fuel k s).2) = a * (substRounds round fuel {} s).length ∧
    countM .entryGuard (guardSig (substThen round fuel k s).2) ≤ b * (substRounds round fuel {} s).length := by
  unfold substThen
  dsimp only
  rw [guardSig_append, guardSig_step_of_noGuard (hk _), List.append_nil]
  exact substLoop_guard_counts round a b P fuel {} s

theorem processRequest_guard_counts (env : Env) (s : St) :
    countM .exitGuard (guardSig (processRequest env s).2) = (processRounds env s).length ∧
    countM .entryGuard (guardSig (processRequest env s).2) ≤ (processRounds env s).length := by
  rw [processRequest_eq]
  unfold processRounds
  dsimp only
  split
  · simpa only [Nat.one_mul] using substThen_guard_counts (guardRound_counts env) _
      (k := fun t => applySurvivor env t ⋙ finishProcessing env t)
      (fun t => Silent.seq (noGuard_applySurvivor env t) (silent_modifyCore _ _)) s
  · exact ⟨rfl, Nat.zero_le _⟩

theorem initialEnter_guard_counts (env : Env) (hL : env.cfg.L ≤ 255) :
    GuardCounts (0 + 0 + 0) (0 + 2 + 2 * env.cfg.L) (initialEnter env) := by
  rw [initialEnter_eq]
  refine ((GuardCounts.seq (a := 0) (b := 0) (fun _ => ⟨rfl, Nat.le_refl _⟩) (entryGuardRound_counts env {} {})).seq
    (a' := 0) (b' := 2 * env.cfg.L) fun t => ?_)
  have := substThen_guard_counts (entryGuardRound_counts env) (substFuel env.cfg.L) (k := enterSurvivor env)
    (fun _ => Silent.seq (Silent.seq (silent_modifyCore _ _) (noGuard_deepEnter env _)) (silent_modifyCore _ _)) t
  have := C04_activation_bound env hL {} t
  exact ⟨by omega, by omega⟩

/-- the bound of C04 on the guard deliveries of a trace -/
def GuardBound (L : Nat) (g : List (Method × Nat)) : Prop := countM .exitGuard g ≤ L ∧ countM .entryGuard g ≤ 2 * (L + 1)

/-- every accepted API call: at most `L` exit-guard evaluations and at most `2·(L+1)` entry-guard
    evaluations (activation evaluates the root's and one state's entry guard per round, one round more
    than the substitution limit; every other call at most `L`) -/
theorem apiStep_guard_bound {w : World} {env : Env} (hL : env.cfg.L ≤ 255) {tag : ApiTag} {slot : Option Core} {c : Core} {f : Step}
    (h : ApiStep env.cfg w env tag slot c f) : GuardBound env.cfg.L (guardSig (f { core := c }).2) := by
  have quiet : ∀ {g : Step}, NoGuard g → GuardBound env.cfg.L (guardSig (g { core := c }).2) := fun hg => by
    rw [guardSig_step_of_noGuard hg]
    exact ⟨Nat.zero_le _, Nat.zero_le _⟩
  have proc : ∀ s : St, GuardBound env.cfg.L (guardSig (processRequest env s).2) := fun s => by
    obtain ⟨p1, p2⟩ := processRequest_guard_counts env s
    have := C04_round_bound env hL s
    exact ⟨by omega, by omega⟩
  have act : ∀ s : St, GuardBound env.cfg.L (guardSig (initialEnter env s).2) := fun s => by
    obtain ⟨a, b⟩ := initialEnter_guard_counts env hL s
    exact ⟨by omega, by omega⟩
  have cyc : ∀ pre mid post : Method, pre.isGuard = false → mid.isGuard = false → post.isGuard = false →
      GuardBound env.cfg.L (guardSig (cycle env pre mid post { core := c }).2) := fun pre mid post h1 h2 h3 => by
    rw [cycle_eq, seq_snd, guardSig_append, guardSig_step_of_noGuard (noGuard_prelude env h1 h2 h3), List.nil_append]
    exact proc _
  have hq := apiStep_noGuard h
  cases h with
  | constructManual => exact quiet (silent_skip _)
  | constructAuto | enter => exact act _
  | update | react => exact cyc _ _ _ rfl rfl rfl
  | immediate c d p =>
    rw [seq_snd, guardSig_append, show guardSig (extChange env d p { core := c }).2 = [] from
      guardSig_of_noGuard (filter_logEv methodPred_isGuard env _ _), List.nil_append]
    exact proc _
  | _ => exact quiet (hq rfl rfl)

/-- **C04 over whole histories, on what user code observes.**  In every API call of every history, from any
    world (in particular every reachable one), whatever the guards do: the own `exitGuard` of a state is
    evaluated at most `SUBSTITUTION_LIMIT` times and own `entryGuard`s at most `2·(SUBSTITUTION_LIMIT+1)`
    times (root + state, activation included) — the call returns after a bounded number of guard rounds. -/
theorem C04_history_guard_bound (cfg : Cfg) (hL : cfg.L ≤ 255) (beh : Beh) (w : World) (k : Nat) (op : Op) :
    countM .exitGuard (guardSig (stepAll cfg beh w k op).2) ≤ cfg.L ∧
    countM .entryGuard (guardSig (stepAll cfg beh w k op).2) ≤ 2 * (cfg.L + 1) :=
  stepAll_inner guardSig_inner (T := GuardBound cfg.L) cfg beh w k op
    ⟨Nat.zero_le _, Nat.zero_le _⟩ (fun _ _ hf => apiStep_guard_bound (env := ⟨cfg, beh, op.inst, k⟩) hL hf)
    (fun c _ => by rw [guardSig_step_of_noGuard (noGuard_finalExit _)]; exact ⟨Nat.zero_le _, Nat.zero_le _⟩)

end FFSM2
