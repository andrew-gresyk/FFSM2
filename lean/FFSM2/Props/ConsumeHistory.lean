import FFSM2.Props.C08
/-!
# C08 — a success report is consumed by the plan step that fires on it

"Plan tasks fire … only once": the report `succeed()` left for the active state is what makes its tasks fire; the
plan step that fires at least one task on it clears it — whether or not the transition the task requested is
applied afterwards (a guard may veto it) — so the next cycle does not fire the following task on the same report.

* `firePlan_consumes` — the loop plus the deferred `successesToClear` pass;
* `C08_planStep_consumes` — the plan step of a cycle: if it fires anything, the active state's success bit is
  clear afterwards;
* `C08_planStep_idle_keeps_report` — conversely, a plan step that fires nothing (no task of the active state at
  the front) leaves the report as it was: it is not lost either.
-/
namespace FFSM2
open Step

def clearAll (clr : List Nat) (l : List Bool) : List Bool := clr.foldl (fun acc o => setBit acc o false) l

theorem setBit_length (l : List Bool) (i : Nat) (v : Bool) : (setBit l i v).length = l.length := List.length_set

theorem getBit_setBit_false (l : List Bool) (i j : Nat) (h : getBit l j = false) : getBit (setBit l i false) j = false := by
  unfold getBit setBit; rw [getD_set]; split
  · rfl
  · exact h

theorem clearAll_false : ∀ (clr : List Nat) (l : List Bool) (a : Nat), a < l.length →
    getBit l a = false ∨ a ∈ clr → getBit (clearAll clr l) a = false
  | [], _, _, _, h => h.resolve_right List.not_mem_nil
  | o :: os, l, a, hl, h =>
    clearAll_false os _ a (Nat.lt_of_lt_of_eq hl (setBit_length l o false).symm) <|
      h.elim (fun h => .inl (getBit_setBit_false l o a h)) fun h =>
        (List.mem_cons.mp h).imp_left fun (e : a = o) => e ▸ getBit_setBit_self l a false hl

/-- the loop of `updatePlan` followed by the `successesToClear` pass: the active state's report is clear afterwards
    whenever it was clear before, a task fired, or the state was already marked for clearing -/
theorem firePlan_consumes (env : Env) : ∀ (tasks : List Task) (s : St) (clr : List Nat),
    s.core.active < s.core.succ.length →
    (getBit s.core.succ s.core.active = false ∨
     firedOf tasks s.core.active (getBit s.core.succ s.core.active) ≠ [] ∨ s.core.active ∈ clr) →
    (firePlan env tasks s clr).1.1.core.succ.length = s.core.succ.length ∧
    getBit (clearAll (firePlan env tasks s clr).1.2.2 (firePlan env tasks s clr).1.1.core.succ) s.core.active = false := by
  intro tasks
  induction tasks with
  | nil =>
    intro s clr hlen h
    exact ⟨rfl, clearAll_false _ _ _ hlen (h.imp_right fun h => h.resolve_left (fun h => h rfl))⟩
  | cons t ts ih =>
    intro s clr hlen h
    simp only [firePlan, ctlIsActive]
    by_cases ho : s.core.active = t.origin
    · rw [if_pos (beq_iff_eq.mpr ho), ← ho]
      cases hb : getBit s.core.succ s.core.active
      · exact ih s clr hlen (Or.inl hb)
      · rw [if_pos rfl]
        by_cases hc : (s.core.active == t.dest) = true
        · simp only [hc, if_true]
          obtain ⟨i1, i2⟩ := ih
            { s with core := { ({ s.core with request := ⟨s.core.active, t.dest, t.payload⟩ } : Core) with
                                succ := setBit s.core.succ s.core.active false } } clr
            (Nat.lt_of_lt_of_eq hlen (setBit_length ..).symm) (Or.inl (getBit_setBit_self _ _ _ hlen))
          exact ⟨i1.trans (setBit_length ..), i2⟩
        · simp only [hc]
          exact ih { s with core := { s.core with request := ⟨s.core.active, t.dest, t.payload⟩ } } (s.core.active :: clr) hlen
            (Or.inr (Or.inr List.mem_cons_self))
    · rw [if_neg (mt beq_iff_eq.mp ho)]
      rw [firedOf, if_neg (mt beq_iff_eq.mp (Ne.symm ho))] at h
      exact ⟨rfl, clearAll_false _ _ _ hlen (h.imp_right fun h => h.resolve_left (fun h => h rfl))⟩

/-- **a success report is consumed by the plan step that fires on it** — whatever becomes of the transition the
    fired task requested -/
theorem C08_planStep_consumes (env : Env) (s : St) (hlen : s.core.active < s.core.succ.length)
    (hst : s.core.subStatus.or (stateStatus s.core) = .success) (hpe : s.core.planExists = true)
    (hf : firedOf s.core.plan s.core.active (getBit s.core.succ s.core.active) ≠ []) :
    getBit (planStep env s).1.core.succ s.core.active = false := by
  have hne : s.core.plan.isEmpty = false := by
    cases hp : s.core.plan with
    | nil => rw [hp] at hf; simp [firedOf] at hf
    | cons t ts => rfl
  unfold planStep
  simp only [hst, hpe, hne, Bool.and_true, Bool.not_false, if_true, show (Status.success != Status.none) = true from by decide]
  exact (firePlan_consumes env s.core.plan s [] hlen (Or.inr (Or.inl hf))).2

/-- … and a plan step that fires nothing leaves the report where it was -/
theorem C08_planStep_idle_keeps_report (env : Env) (s : St) (_hlen : s.core.active < s.core.succ.length)
    (hst : s.core.subStatus.or (stateStatus s.core) = .success) (hpe : s.core.planExists = true)
    (hne : s.core.plan ≠ []) (hf : ∀ t, s.core.plan.head? = some t → t.origin ≠ s.core.active) :
    (planStep env s).1.core.succ = s.core.succ ∧ (planStep env s).1.core.plan = s.core.plan := by
  cases hp : s.core.plan with
  | nil => exact absurd hp hne
  | cons t ts =>
    have ho : (s.core.active == t.origin) = false := beq_eq_false_iff_ne.mpr (hf t (hp ▸ rfl)).symm
    unfold planStep
    simp only [hst, hpe, hp, List.isEmpty_cons, Bool.and_true, Bool.not_false, if_true,
      show (Status.success != Status.none) = true from by decide, firePlan, ctlIsActive, ho, Bool.false_eq_true, if_false,
      List.foldl_nil]
    exact ⟨trivial, trivial⟩

/-- non-vacuity: state 1 active with a report, plan `[1→2, 1→0]`: the step fires both (the second overrides the
    first), and the report is gone -/
example :
    let env : Env := ⟨{ n := 3, L := 2, cap := 2 }, fun _ => [], 0, 0⟩
    let s : St := { core := { active := 1, succ := [false, true, false], fail := [false, false, false],
                              plan := [⟨1, 2, none⟩, ⟨1, 0, none⟩], planExists := true } }
    firedOf s.core.plan 1 true = [⟨1, 2, none⟩, ⟨1, 0, none⟩] ∧
    getBit (planStep env s).1.core.succ 1 = false ∧ (planStep env s).1.core.request = ⟨1, 0, none⟩ := by
  decide +kernel

end FFSM2
