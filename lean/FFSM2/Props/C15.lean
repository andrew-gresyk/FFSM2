import FFSM2.Lemmas.Ancestors
/-!
# C15 — Injected base behaviours wrap the state's own callbacks in LIFO order
-/
namespace FFSM2
open Ancestors

/-- **the translated call-order tables say what the property says.**  `deep` is defined from `Gen.ownFirstCodes` /
    `Gen.restFirstCodes`, which the translator reads off `S_::deepX` and `A_<First, Rest...>::wideX` on every run; this
    equation (checked by evaluation) is where a change of any of those call orders in the source stops the C15
    theorems from going through -/
theorem C15_layer_tables (k : Nat) (m : Method) : deep k m =
    (match m with
     | .entryGuard | .enter | .reenter | .preUpdate | .update | .preReact | .react => wideFwd (injections k) ++ [.own]
     | .postUpdate | .postReact | .exit => .own :: wideRev (injections k)
     | .exitGuard => wideRev (injections k) ++ [.own]
     | .query => .own :: wideFwd (injections k)
     | .planSucceeded | .planFailed => [.own]) := by
  cases m <;> rfl

/-- the methods the property lists on the "set-up" side -/
def preSide : List Method := [.entryGuard, .enter, .reenter, .preUpdate, .update, .preReact, .react]
/-- … and on the "tear-down" side -/
def postSide : List Method := [.exit, .postUpdate, .postReact]

/-- **C15 pre order**: `I1..Ik` then the state, for every `k` -/
theorem C15_pre_order (k : Nat) (m : Method) (hm : m ∈ preSide) :
    deep k m = injections k ++ [.own] := by
  simp [preSide] at hm
  rcases hm with rfl | rfl | rfl | rfl | rfl | rfl | rfl <;> simp [C15_layer_tables, wideFwd_eq]

/-- **C15 post order**: the state first, then `Ik..I1` -/
theorem C15_post_order (k : Nat) (m : Method) (hm : m ∈ postSide) :
    deep k m = .own :: (injections k).reverse := by
  simp [postSide] at hm
  rcases hm with rfl | rfl | rfl <;> simp [C15_layer_tables, wideRev_eq]

/-- **C15 nesting**: tear-down order is the exact reverse of set-up order -/
theorem C15_nesting (k : Nat) (m m' : Method) (hm : m ∈ preSide) (hm' : m' ∈ postSide) :
    deep k m' = (deep k m).reverse := by
  rw [C15_pre_order k m hm, C15_post_order k m' hm']; simp

theorem injections_nodup (k : Nat) : (injections k).Nodup :=
  List.Pairwise.map _ (fun _ _ hab e => hab (Layer.inj.inj e)) List.nodup_range

theorem own_not_mem_injections (k : Nat) : Layer.own ∉ injections k := by
  simp [injections]

/-- **C15 exactly once**: every injection's callback and the state's own callback run exactly
    once per delivery (for every method that has a wide form) -/
theorem C15_exactly_once (k : Nat) (m : Method) (hm : m ∈ preSide ∨ m ∈ postSide) :
    (deep k m).Nodup ∧ (∀ i, i < k → Layer.inj i ∈ deep k m) ∧ Layer.own ∈ deep k m ∧
    (deep k m).length = k + 1 := by
  -- either order is a permutation of `own :: injections k`
  have hp : (deep k m).Perm (.own :: injections k) := by
    rcases hm with hm | hm
    · rw [C15_pre_order k m hm]; exact List.perm_append_singleton _ _
    · rw [C15_post_order k m hm]; exact (List.reverse_perm _).cons _
  rw [hp.nodup_iff, hp.length_eq]
  simp only [hp.mem_iff]
  exact ⟨List.nodup_cons.mpr ⟨own_not_mem_injections k, injections_nodup k⟩,
    fun i hi => List.mem_cons_of_mem _ (by simp [injections]; exact hi), List.mem_cons_self, by simp [injections]⟩

/-- methods outside the property's two lists, recorded as the code has them -/
theorem C15_exitGuard_order (k : Nat) : deep k .exitGuard = (injections k).reverse ++ [.own] := by
  simp [C15_layer_tables, wideRev_eq]
theorem C15_query_order (k : Nat) : deep k .query = .own :: injections k := by
  simp [C15_layer_tables, wideFwd_eq]

/-- non-vacuity: three injections -/
example : deep 3 .enter = [.inj 0, .inj 1, .inj 2, .own] ∧ deep 3 .exit = [.own, .inj 2, .inj 1, .inj 0] := by
  decide +kernel

end FFSM2
