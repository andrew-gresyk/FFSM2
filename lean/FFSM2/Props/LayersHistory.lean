import FFSM2.Lemmas.LayerBlocks
import FFSM2.Props.C15
/-!
# C15 over whole histories: every delivery of every history is one whole, correctly ordered block

`C15_history_whole_deliveries` — the `(method, state, layer)` sequence of all delivery events of any history (any
configuration, behaviour, sequence of API calls on any number of instances) is a concatenation of *blocks*, and a block
of method `m` for a state with `k` injected bases is: `I1..Ik` then the state for `entryGuard`, `enter`, `reenter`,
`preUpdate`, `update`, `preReact`, `react`; the state then `Ik..I1` for `exit`, `postUpdate`, `postReact`
(`C15_block_pre`, `C15_block_post`) — every injection's callback and the state's own callback exactly once per lifecycle
event, in LIFO order, for every delivery that ever happens.
-/
namespace FFSM2
open Step Ancestors

theorem C15_history_whole_deliveries (cfg : Cfg) (beh : Beh) (ops : List Op) : Blocks cfg (layerSig (run cfg beh ops).2) :=
  runFrom_blocks cfg beh ops [] 0

theorem C15_history_call_whole_deliveries (cfg : Cfg) (beh : Beh) (w : World) (k : Nat) (op : Op) :
    Blocks cfg (layerSig (stepAll cfg beh w k op).2) := stepAll_blocks cfg beh w k op

/-- a block on the set-up side: `I1..Ik`, then the state -/
theorem C15_block_pre (cfg : Cfg) (m : Method) (sid : Nat) (hm : m ∈ preSide) :
    block cfg m sid = ((injections (cfg.injections sid)).map fun l => (m, sid, l)) ++ [(m, sid, Layer.own)] := by
  unfold block; rw [C15_pre_order _ m hm]; simp

/-- a block on the tear-down side: the state, then `Ik..I1` -/
theorem C15_block_post (cfg : Cfg) (m : Method) (sid : Nat) (hm : m ∈ postSide) :
    block cfg m sid = (m, sid, Layer.own) :: ((injections (cfg.injections sid)).reverse.map fun l => (m, sid, l)) := by
  unfold block; rw [C15_post_order _ m hm]; simp

/-- every block contains every layer exactly once -/
theorem C15_block_exactly_once (cfg : Cfg) (m : Method) (sid : Nat) (hm : m ∈ preSide ∨ m ∈ postSide) :
    (block cfg m sid).Nodup ∧ (block cfg m sid).length = cfg.injections sid + 1 := by
  have h := C15_exactly_once (cfg.injections sid) m hm
  unfold block
  refine ⟨?_, by rw [List.length_map]; exact h.2.2.2⟩
  exact List.Pairwise.map _ (fun a b hab heq => hab (by cases heq; rfl)) h.1

/-- non-vacuity: a state with two injected bases; one update delivers `I1, I2, S` for preUpdate / update and
    `S, I2, I1` for postUpdate -/
example :
    let cfg : Cfg := { n := 2, L := 2, cap := 1, injections := fun s => if s = 0 then 2 else 0 }
    let beh : Beh := fun _ => []
    (layerSig (stepAll cfg beh (run cfg beh [.construct 0 false]).1 1 (.update 0)).2).filter (fun x => x.2.1 == 0) =
      [(.preUpdate, 0, .inj 0), (.preUpdate, 0, .inj 1), (.preUpdate, 0, .own),
       (.update, 0, .inj 0), (.update, 0, .inj 1), (.update, 0, .own),
       (.postUpdate, 0, .own), (.postUpdate, 0, .inj 1), (.postUpdate, 0, .inj 0)] := by
  decide +kernel

end FFSM2
