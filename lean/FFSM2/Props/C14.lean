import FFSM2.Dispatch
/-!
# C14 — State ids follow declaration order and dispatch reaches exactly that state

The halving arithmetic comes from `FFSM2/Gen/Consts.lean`, regenerated from the C++ on every run:
if the split or the comparison changes in the source, these proofs are re-checked against it.
-/
namespace FFSM2
open Dispatch

variable {α : Type}

/-- `LowerT` / `UpperT` cut the list at the same point -/
theorem lower_upper_eq (half : Nat) (l : List α) : ∀ idx,
    lower half idx l = l.take (half - idx) ∧ upper half idx l = l.drop (half - idx) := by
  induction l with
  | nil => intro idx; simp [lower, upper]
  | cons x xs ih =>
    intro idx
    simp only [lower, upper, Gen.lowerKeeps, Gen.upperSkips]
    by_cases h : idx < half
    · have : half - idx = (half - (idx + 1)) + 1 := (Nat.succ_pred_eq_of_pos (Nat.sub_pos_of_lt h)).symm
      simp [h, ih, this]
    · have h0 : half - idx = 0 := Nat.sub_eq_zero_of_le (Nat.le_of_not_lt h)
      have h1 : half - (idx + 1) = 0 := Nat.sub_eq_zero_of_le (Nat.le_succ_of_le (Nat.le_of_not_lt h))
      simp [h, ih, h0, h1]

theorem lHalf_eq (l : List α) : lHalf l = l.take (l.length / 2) := by
  simp [lHalf, lower_upper_eq, Gen.halfL]

theorem rHalf_eq (l : List α) : rHalf l = l.drop (l.length / 2) := by
  simp [rHalf, lower_upper_eq, Gen.halfR]
/-- general form: any sub-hierarchy `CS_<base, _, prong, l>` routes prong `prong + k` to the k-th
    state of its list, whose id is `base + k`. -/
theorem cs_dispatch : ∀ (fuel : Nat) (l : List α) (base prong k : Nat) (v : α),
    l.length ≤ fuel → l[k]? = some v → wide (cs fuel l base prong) (prong + k) = some (base + k, v) := by
  intro fuel
  induction fuel with
  | zero =>
    intro l base prong k v hl hk
    cases List.eq_nil_of_length_eq_zero (Nat.le_zero.mp hl); cases hk
  | succ fuel ih =>
    intro l base prong k v hl hk
    match l, hl, hk with
    | [], _, hk => cases hk
    | [x], _, hk =>
      cases k with
      | zero => cases hk; rfl
      | succ k => cases hk
    | x :: y :: rest, hl, hk =>
      have hn : (x :: y :: rest).length = rest.length + 2 := rfl
      simp only [cs, wide, Gen.rProng, Gen.lStateId, Gen.lProngIndex, Gen.rStateId,
        Gen.rProngIndex, lHalf_eq, rHalf_eq]
      generalize hL : x :: y :: rest = L at *
      have hh1 : 1 ≤ L.length / 2 := Nat.div_pos (by rw [hn]; exact Nat.le_add_left 2 _) Nat.two_pos
      have hh2 : L.length / 2 < L.length := Nat.div_lt_self (by rw [hn]; exact Nat.succ_pos _) (Nat.lt_succ_self 1)
      generalize L.length / 2 = h at *
      by_cases hlt : k < h
      · rw [if_pos (by simp [Gen.goesLeft, hlt])]
        apply ih
        · exact Nat.le_trans (List.length_take_le ..) (Nat.le_of_lt_succ (Nat.lt_of_lt_of_le hh2 hl))
        · rw [List.getElem?_take, if_pos hlt]; exact hk
      · have hle := Nat.le_of_not_lt hlt
        rw [if_neg (by simp [Gen.goesLeft, hlt]), ← Nat.add_sub_cancel' hle, ← Nat.add_assoc, ← Nat.add_assoc]
        apply ih
        · rw [List.length_drop]; exact Nat.sub_le_of_le_add (Nat.le_trans hl (Nat.add_le_add_left hh1 fuel))
        · rw [List.getElem?_drop, Nat.add_sub_cancel' hle]; exact hk

/-- **C14 dispatch**: for a machine declared with the non-empty state list `l` (any length — no
    bound), requesting prong/id `k` reaches exactly the k-th declared state, and the id that state
    object was materialised with is `k`. -/
theorem C14_dispatch (l : List α) (k : Nat) (v : α) (hk : l[k]? = some v) :
    wide (cs l.length l 0 0) k = some (k, v) := by
  have := cs_dispatch l.length l 0 0 k v (Nat.le_refl _) hk
  simpa using this

theorem findImpl_spec [DecidableEq α] (x : α) : ∀ (l : List α) (i k : Nat),
    l[k]? = some x → (∀ j, j < k → l[j]? ≠ some x) → findImpl x i l = i + k := by
  intro l
  induction l with
  | nil => intro i k h; simp at h
  | cons y ys ih =>
    intro i k h hfirst
    cases k with
    | zero => cases h; exact if_pos rfl
    | succ k =>
      have hne : ¬ x = y := fun e => hfirst 0 (Nat.succ_pos k) (congrArg some e.symm)
      simp only [findImpl, hne, if_false, Gen.findStep]
      rw [ih (i + 1) k h fun j hj => hfirst (j + 1) (Nat.succ_lt_succ hj)]
      omega

theorem findImpl_miss [DecidableEq α] (x : α) : ∀ (l : List α) (i : Nat), x ∉ l → findImpl x i l = 255 := by
  intro l
  induction l with
  | nil => intro i _; simp [findImpl, Gen.findMiss, Gen.INVALID_LONG]
  | cons y ys ih =>
    intro i h
    have hne : ¬ x = y := by intro e; exact h (by simp [e])
    simp only [findImpl, hne, if_false]
    exact ih _ (by intro hm; exact h (by simp [hm]))

/-- **C14 ids**: in a duplicate-free declaration, `stateId<T>()` of the k-th declared state is `k`;
    a type that is not in the list (the root head) gets the invalid id 255. -/
theorem C14_find [DecidableEq α] (l : List α) (hnd : l.Nodup) (k : Nat) (x : α) (hk : l[k]? = some x) :
    index l x = k := by
  obtain ⟨hlt, e2⟩ := List.getElem?_eq_some_iff.mp hk
  unfold index
  rw [findImpl_spec x l Gen.findStart k hk]
  · exact Nat.zero_add k
  · intro j hj hj'
    obtain ⟨hjl, e1⟩ := List.getElem?_eq_some_iff.mp hj'
    exact Nat.ne_of_lt hj ((List.getElem_inj hnd).mp (e1.trans e2.symm))

theorem C14_find_head [DecidableEq α] (l : List α) (x : α) (h : x ∉ l) : index l x = 255 :=
  findImpl_miss x l _ h

/-- the merged state list is the declaration order -/
theorem C14_stateList_order (l : List α) : stateList l = l := by
  induction l with
  | nil => rfl
  | cons x xs ih => simp [stateList, ih]

/-- the first declared state has id 0 and prong 0: it is the one activation enters -/
theorem C14_initial_is_first (x : α) (xs : List α) :
    wide (cs (x :: xs).length (x :: xs) 0 0) 0 = some (0, x) :=
  C14_dispatch (x :: xs) 0 x (by simp)

/-- non-vacuity: 5 states — the tree splits 2|3, then 1|1 and 1|2 — every prong reaches its state -/
example : (List.range 5).map (wide (cs 5 ["a","b","c","d","e"] 0 0))
    = [some (0,"a"), some (1,"b"), some (2,"c"), some (3,"d"), some (4,"e")] := by decide +kernel

end FFSM2
