import FFSM2.Lemmas.Records
/-!
# C16 over whole histories: every method record names the delivery happening at that moment

`C16_history_records_faithful` — in the trace of every history (any configuration, any callback behaviour, any
sequence of API calls on any number of instances, loggers attached, detached or toggled at will) every method record
`log i (method sid m)` is immediately followed by a delivery event of instance `i`, state `sid`, method `m`: the
record is emitted before any user code of the delivery it announces, and never without one.
-/
namespace FFSM2
open Step

theorem recStep_ok (st : RecSt) (e : Ev) (h : (recStep st e).2 = true) : st.2 = true := by
  obtain ⟨p, ok⟩ := st
  cases p with
  | none => cases e with
    | log i r => cases r <;> exact h
    | _ => exact h
  | some t => cases e with
    | cb k v o => simp only [recStep, Bool.and_eq_true] at h; exact h.1.1.1
    | log i r => cases r <;> cases h
    | _ => cases h

/-- what acceptance means, in plain words -/
theorem closed_spec {es : List Ev} (h : Closed es) (pre post : List Ev) (i sid : Nat) (m : Method)
    (hs : es = pre ++ Ev.log i (.method sid m) :: post) :
    ∃ k vis o post', post = Ev.cb k vis o :: post' ∧ k.inst = i ∧ k.sid = sid ∧ k.method = m := by
  unfold Closed at h
  rw [hs, List.foldl_append, List.foldl_cons] at h
  generalize List.foldl recStep (none, true) pre = st at h
  obtain ⟨p, ok⟩ := st
  have h1 : ∃ ok', recStep (p, ok) (Ev.log i (.method sid m)) = (some (i, sid, m), ok') := by
    cases p with
    | none => exact ⟨ok, rfl⟩
    | some t => exact ⟨false, rfl⟩
  obtain ⟨ok', h1⟩ := h1
  rw [h1] at h
  cases post with
  | nil => cases h
  | cons e post' =>
    have h2 := foldl_ok recStep_ok post' _ (congrArg Prod.snd h)
    cases e with
    | cb k v o =>
      simp only [recStep, Bool.and_eq_true, beq_iff_eq] at h2
      exact ⟨k, v, o, post', rfl, h2.1.1.2, h2.1.2, h2.2⟩
    | log j r => cases r <;> cases h2
    | _ => cases h2

/-- **C16 over whole histories — method records are faithful.**  Wherever a method record occurs in the trace of
    any history, the very next event is a delivery to that instance and state of that method. -/
theorem C16_history_records_faithful (cfg : Cfg) (beh : Beh) (ops : List Op) (pre post : List Ev) (i sid : Nat) (m : Method)
    (hs : (run cfg beh ops).2 = pre ++ Ev.log i (.method sid m) :: post) :
    ∃ k vis o post', post = Ev.cb k vis o :: post' ∧ k.inst = i ∧ k.sid = sid ∧ k.method = m :=
  closed_spec (runFrom_closed cfg beh ops [] 0) pre post i sid m hs

/-- the same for one API call from any world -/
theorem C16_history_call_records_faithful (cfg : Cfg) (beh : Beh) (w : World) (k0 : Nat) (op : Op) (pre post : List Ev)
    (i sid : Nat) (m : Method) (hs : (stepAll cfg beh w k0 op).2 = pre ++ Ev.log i (.method sid m) :: post) :
    ∃ k vis o post', post = Ev.cb k vis o :: post' ∧ k.inst = i ∧ k.sid = sid ∧ k.method = m :=
  closed_spec (stepAll_closed cfg beh w k0 op) pre post i sid m hs

/-- non-vacuity: a logged history contains method records (here: five of them), and the automaton accepts it -/
example :
    let cfg : Cfg := { n := 2, L := 2, cap := 1, logging := true }
    let beh : Beh := fun k => if k.method = .update ∧ k.sid = 0 then [.changeTo 1] else []
    let es := (run cfg beh [.construct 0 true, .update 0]).2
    (es.filter Ev.isMethodLog).length ≥ 5 ∧ es.foldl recStep (none, true) = (none, true) := by
  decide +kernel

end FFSM2
