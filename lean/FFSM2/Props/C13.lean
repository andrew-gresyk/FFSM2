import FFSM2.Lemmas.BitStream
/-!
# C13 — Bit stream: reads return exactly what was written, packed back to back

The loops' arithmetic is in `FFSM2/Lemmas/BitStream.lean`; here the stream invariant, whole field sequences (`packed`,
`writeAll_spec` / `readAll_spec`) and the property theorems.
The model (`FFSM2/BitStream.lean`) is a literal port of `write<N>` / `read<N>`; `bitWidth`,
`typeBits`, `byteCount` are regenerated from the C++ source on every run (`FFSM2/Gen/Consts.lean`).
-/
namespace FFSM2
open BitStream

/-- The write-stream invariant between calls: a buffer of `BYTE_COUNT` bytes, every byte a
    `uint8_t`, no bit at or above the cursor set, cursor within the declared bit capacity
    (which itself fits the `uint8_t` cursor). -/
structure StreamInv (cap : Nat) (buf : List Nat) (cursor : Nat) : Prop where
  cap_le  : cap ≤ 255
  bytes   : BytesOk buf
  length  : buf.length = byteCount cap
  tail    : bitsOf buf < 2 ^ cursor
  cursor  : cursor ≤ cap

/-- a freshly constructed write stream (`_buffer.clear()`, cursor 0) satisfies the invariant -/
theorem C13_init (cap : Nat) (h : cap ≤ 255) : StreamInv cap (clearBuf cap) 0 where
  cap_le := h
  bytes := bytesOk_replicate _
  length := by simp [clearBuf]
  tail := by simp [clearBuf, bitsOf_replicate_zero]
  cursor := Nat.zero_le _

theorem byteCount_ge (cap : Nat) : cap ≤ 8 * byteCount cap := by
  simp only [byteCount, Gen.byteCount, Gen.contain]; omega

theorem typeBits_ge {w : Nat} (h : w ≤ 32) : w ≤ typeBits w := by
  unfold typeBits Gen.typeBits; split
  · omega
  · split <;> omega

/-- **write spec**: for a field of width `1..32` whose value fits and which fits the capacity,
    `write` adds exactly `v · 2^cursor` to the buffer-as-number, advances the cursor by exactly
    `w`, keeps the buffer length and byte-ness, and re-establishes the invariant. -/
theorem C13_write_spec {cap : Nat} {buf : List Nat} {cursor w v : Nat}
    (inv : StreamInv cap buf cursor) (hw1 : 1 ≤ w) (hw : w ≤ 32) (hv : v < 2 ^ w)
    (hfit : cursor + w ≤ cap) :
    bitsOf (write w buf cursor v).1 = bitsOf buf + v * 2 ^ cursor ∧
    (write w buf cursor v).2 = cursor + w ∧
    StreamInv cap (write w buf cursor v).1 (write w buf cursor v).2 := by
  have hmod : v % 2 ^ typeBits w = v :=
    Nat.mod_eq_of_lt (Nat.lt_of_lt_of_le hv (Nat.pow_le_pow_right (by decide) (typeBits_ge hw)))
  have hcap : cursor + w ≤ 8 * buf.length := by
    rw [inv.length]; exact Nat.le_trans hfit (byteCount_ge cap)
  obtain ⟨h1, h3, h4⟩ := writeLoop_bits w buf cursor v w inv.bytes inv.tail hv (Nat.le_refl _) hcap
  unfold BitStream.write
  rw [hmod]
  refine ⟨h4, h3, ⟨inv.cap_le, h1, by rw [writeLoop_length, inv.length], ?_, by rw [h3]; exact hfit⟩⟩
  rw [h4, h3]
  exact add_shift_lt inv.tail hv

/-- **cursor**: the cursor advances by exactly the field width (never past the capacity, so the
    `uint8_t` cursor cannot wrap). -/
theorem C13_cursor {cap : Nat} {buf : List Nat} {cursor w v : Nat}
    (inv : StreamInv cap buf cursor) (hw1 : 1 ≤ w) (hw : w ≤ 32) (hv : v < 2 ^ w)
    (hfit : cursor + w ≤ cap) :
    (write w buf cursor v).2 = cursor + w ∧ (write w buf cursor v).2 ≤ 255 := by
  have := C13_write_spec inv hw1 hw hv hfit
  exact ⟨this.2.1, by rw [this.2.1]; exact Nat.le_trans hfit inv.cap_le⟩

/-- **frame**: a write alters only the bits of its own field — everything below the old cursor is
    unchanged, the field holds exactly `v`, nothing above the new cursor is set. -/
theorem C13_frame {cap : Nat} {buf : List Nat} {cursor w v : Nat}
    (inv : StreamInv cap buf cursor) (hw1 : 1 ≤ w) (hw : w ≤ 32) (hv : v < 2 ^ w)
    (hfit : cursor + w ≤ cap) :
    bitsOf (write w buf cursor v).1 % 2 ^ cursor = bitsOf buf ∧
    bitsOf (write w buf cursor v).1 / 2 ^ cursor = v := by
  have h := (C13_write_spec inv hw1 hw hv hfit).1
  have hpos : 0 < 2 ^ cursor := Nat.two_pow_pos _
  rw [h]
  constructor
  · rw [Nat.add_mul_mod_self_right, Nat.mod_eq_of_lt inv.tail]
  · rw [Nat.add_mul_div_right _ _ hpos, Nat.div_eq_of_lt inv.tail, Nat.zero_add]

/-- **tail zero**: bits past the cursor stay zero after any write. -/
theorem C13_tail_zero {cap : Nat} {buf : List Nat} {cursor w v : Nat}
    (inv : StreamInv cap buf cursor) (hw1 : 1 ≤ w) (hw : w ≤ 32) (hv : v < 2 ^ w)
    (hfit : cursor + w ≤ cap) :
    ∀ j, (write w buf cursor v).2 ≤ j → (bitsOf (write w buf cursor v).1).testBit j = false := by
  intro j hj
  have h := (C13_write_spec inv hw1 hw hv hfit).2.2
  exact Nat.testBit_lt_two_pow (Nat.lt_of_lt_of_le h.tail (Nat.pow_le_pow_right (by decide) hj))

/-- **read spec**: `read<w>` returns bits `[cursor, cursor+w)` of the buffer-as-number and advances
    the cursor by exactly `w` (no precondition on the buffer beyond byte-ness). -/
theorem C13_read_spec {buf : List Nat} {cursor w : Nat} (hok : BytesOk buf) (hw : w ≤ 32) :
    read w buf cursor = (bitsOf buf / 2 ^ cursor % 2 ^ w, cursor + w) := by
  unfold BitStream.read
  rw [readLoop_bits w (typeBits w) buf cursor 0 0 w hok (Nat.le_refl _) (by rw [Nat.zero_add]; exact typeBits_ge hw)
    (Nat.two_pow_pos 0), Nat.zero_add, Nat.pow_zero, Nat.mul_one]

/-- every byte index either loop touches is inside the buffer -/
theorem C13_byteIndex_in_range {cap cursor w : Nat} (hfit : cursor + w ≤ cap) :
    ∀ c, cursor ≤ c → c < cursor + w → c >>> 3 < byteCount cap := by
  intro c _ h2
  have := byteCount_ge cap
  rw [shiftRight3]; omega

/-- total width of a field sequence -/
def totalWidth : List (Nat × Nat) → Nat
  | [] => 0
  | (w, _) :: fs => w + totalWidth fs

/-- the field values packed back to back, least significant first -/
def packed : List (Nat × Nat) → Nat
  | [] => 0
  | (w, v) :: fs => v + 2 ^ w * packed fs

/-- every field has a width in `1..32` and a value that fits it -/
def FieldsOk (fs : List (Nat × Nat)) : Prop := ∀ f ∈ fs, 1 ≤ f.1 ∧ f.1 ≤ 32 ∧ f.2 < 2 ^ f.1

theorem packed_lt : ∀ {fs : List (Nat × Nat)}, FieldsOk fs → packed fs < 2 ^ totalWidth fs
  | [], _ => Nat.one_pos
  | (w, v) :: fs, h => by
    obtain ⟨hf, hfs⟩ := List.forall_mem_cons.mp h
    rw [packed, totalWidth, Nat.mul_comm]
    exact add_shift_lt hf.2.2 (packed_lt hfs)

theorem writeAll_spec : ∀ (fs : List (Nat × Nat)) {cap : Nat} {buf : List Nat} {cursor : Nat},
    StreamInv cap buf cursor → FieldsOk fs → cursor + totalWidth fs ≤ cap →
    bitsOf (writeAll fs buf cursor).1 = bitsOf buf + packed fs * 2 ^ cursor ∧
    (writeAll fs buf cursor).2 = cursor + totalWidth fs ∧
    StreamInv cap (writeAll fs buf cursor).1 (writeAll fs buf cursor).2
  | [], _, _, _, inv, _, _ => ⟨by rw [packed, Nat.zero_mul]; rfl, rfl, inv⟩
  | (w, v) :: fs, cap, buf, cursor, inv, hok, hfit => by
    obtain ⟨hf, hfs⟩ := List.forall_mem_cons.mp hok
    rw [totalWidth, ← Nat.add_assoc] at hfit
    obtain ⟨h1, h2, h3⟩ := C13_write_spec inv hf.1 hf.2.1 hf.2.2 (Nat.le_of_add_right_le hfit)
    obtain ⟨r1, r2, r3⟩ := writeAll_spec fs h3 hfs (h2 ▸ hfit)
    refine ⟨?_, r2.trans (by rw [h2, totalWidth, Nat.add_assoc]), r3⟩
    rw [writeAll, r1, h1, h2, packed, Nat.pow_add, Nat.add_mul, Nat.add_assoc, Nat.mul_comm (2 ^ cursor), ← Nat.mul_assoc,
      Nat.mul_comm (packed fs)]

theorem split_unique {a b c d n : Nat} (ha : a < n) (hc : c < n) (h : a + n * b = c + n * d) :
    a = c ∧ b = d := by
  have h1 : (a + n * b) % n = (c + n * d) % n := by rw [h]
  rw [Nat.add_mul_mod_self_left, Nat.add_mul_mod_self_left, Nat.mod_eq_of_lt ha, Nat.mod_eq_of_lt hc] at h1
  subst h1
  have hn : 0 < n := by omega
  have h2 : n * b = n * d := by omega
  exact ⟨rfl, Nat.eq_of_mul_eq_mul_left hn h2⟩

theorem readAll_spec (fs : List (Nat × Nat)) : ∀ {buf : List Nat} {cursor : Nat},
    BytesOk buf → FieldsOk fs → bitsOf buf / 2 ^ cursor % 2 ^ totalWidth fs = packed fs →
    readAll (fs.map Prod.fst) buf cursor = (fs.map Prod.snd, cursor + totalWidth fs) := by
  induction fs with
  | nil => intro buf cursor _ _ _; rfl
  | cons f fs ih =>
    intro buf cursor hb hok hp
    obtain ⟨w, v⟩ := f
    obtain ⟨hf, hfs⟩ := List.forall_mem_cons.mp hok
    simp only [totalWidth, packed, Nat.pow_add, Nat.mod_mul] at hp
    obtain ⟨e1, e2⟩ := split_unique (Nat.mod_lt _ (Nat.two_pow_pos w)) hf.2.2 hp
    rw [Nat.div_div_eq_div_mul, ← Nat.pow_add] at e2
    simp only [List.map_cons, readAll, C13_read_spec hb hf.2.1, ih hb hfs e2, e1, totalWidth, Nat.add_assoc]

/-- **C13 round trip**: for any sequence of fields with widths `1..32` whose values fit and whose
    total fits the capacity (≤ 255 bits), writing them into a fresh stream and reading the same
    widths back from cursor 0 returns the same values in order, and both cursors end at the total
    width. -/
theorem C13_read_write_seq (cap : Nat) (hcap : cap ≤ 255) (fs : List (Nat × Nat))
    (hok : FieldsOk fs) (hfit : totalWidth fs ≤ cap) :
    let w := writeAll fs (clearBuf cap) 0
    readAll (fs.map Prod.fst) w.1 0 = (fs.map Prod.snd, totalWidth fs) ∧ w.2 = totalWidth fs := by
  intro w
  obtain ⟨h1, h2, h3⟩ := writeAll_spec fs (C13_init cap hcap) hok (by omega)
  have hbits : bitsOf w.1 = packed fs := by
    show bitsOf (writeAll fs (clearBuf cap) 0).1 = packed fs
    rw [h1]; simp [clearBuf, bitsOf_replicate_zero]
  have := readAll_spec fs (buf := w.1) (cursor := 0) h3.bytes hok
    (by rw [hbits]; simp; exact Nat.mod_eq_of_lt (packed_lt hok))
  refine ⟨by simpa using this, by simpa using h2⟩

/-- the arms `if (v >> k) == 0 return k` of `bitWidth` from arm `k` on, `n` of them, then `k + n` -/
def bitWidthFrom (v : Nat) : Nat → Nat → Nat
  | k, 0 => k
  | k, n + 1 => if v >>> k = 0 then k else bitWidthFrom v (k + 1) n

/-- the chain as translated from the source this run is that loop, 31 arms after the zero test -/
theorem bitWidth_eq_chain (v : Nat) : Gen.bitWidth v = if v = 0 then 0 else bitWidthFrom v 1 31 := rfl

/-- entered at arm `k + 1` after arm `k` failed, the arms return the least width that holds `v` -/
theorem bitWidthFrom_spec (v : Nat) : ∀ (n k : Nat), 2 ^ k ≤ v → v < 2 ^ (k + 1 + n) →
    v < 2 ^ bitWidthFrom v (k + 1) n ∧ 2 ^ (bitWidthFrom v (k + 1) n - 1) ≤ v
  | 0, _, hlo, hhi => ⟨hhi, hlo⟩
  | n + 1, k, hlo, hhi => by
    have hiff : v >>> (k + 1) = 0 ↔ v < 2 ^ (k + 1) := by
      rw [Nat.shiftRight_eq_div_pow, Nat.div_eq_zero_iff_lt (Nat.two_pow_pos _)]
    unfold bitWidthFrom
    by_cases h : v < 2 ^ (k + 1)
    · rw [if_pos (hiff.mpr h)]; exact ⟨h, hlo⟩
    · rw [if_neg (mt hiff.mp h)]
      exact bitWidthFrom_spec v n (k + 1) (Nat.le_of_not_lt h) (by rw [Nat.add_right_comm _ 1 n]; exact hhi)

/-- **bitWidth** (on the chain as translated from the source this run): for every 32-bit argument
    the derived width suffices (`v < 2^(bitWidth v)`) and is minimal. -/
theorem C13_bitWidth_spec (v : Nat) (hv : v < 2 ^ 32) :
    v < 2 ^ Gen.bitWidth v ∧ (Gen.bitWidth v = 0 ∨ 2 ^ (Gen.bitWidth v - 1) ≤ v) := by
  rw [bitWidth_eq_chain]
  split
  · rename_i h; subst h; exact ⟨by decide, Or.inl rfl⟩
  · have h := bitWidthFrom_spec v 31 0 (by omega) hv
    exact ⟨h.1, Or.inr h.2⟩

/-- the width derived for a state count `n` encodes every state index of that count -/
theorem C13_bitWidth_suffices (n : Nat) (hn : n ≤ 255) (a : Nat) (ha : a < n) :
    a < 2 ^ Gen.bitWidth n :=
  Nat.lt_trans ha (C13_bitWidth_spec n (by omega)).1

/-- non-vacuity: a concrete three-field sequence meets the hypotheses, and the model computes the
    expected bytes (LSB-first packing: 5 in 3 bits, 0x1ff in 9 bits, 1 in 1 bit). -/
example : FieldsOk [(3, 5), (9, 511), (1, 1)] ∧ totalWidth [(3, 5), (9, 511), (1, 1)] ≤ 16 ∧
    (writeAll [(3, 5), (9, 511), (1, 1)] (clearBuf 16) 0) = ([0xFD, 0x1F], 13) := by
  refine ⟨?_, by decide, by decide⟩
  intro f hf
  simp at hf
  rcases hf with rfl | rfl | rfl <;> decide

end FFSM2
