import FFSM2.Lemmas.PlanList
/-!
# C10 — Plan capacity is exact, order-preserving and never leaks

`TaskListT` (`FFSM2/TaskList.lean`) and `PlanT` (`FFSM2/PlanList.lean`) are literal ports: fixed arrays,
the intrusive free list threaded through the `origin/prev` – `destination/next` unions, `taskLinks`,
`tasksBounds`, iterators that cache `_next`.  `PInv p vac order` is the representation invariant with
the ghost free list `vac` and ghost plan order `order`; `absPlan p order` is the plan users see.
The machine model (`Machine.lean`) uses exactly the list-with-capacity these theorems refine to.
-/
namespace FFSM2
open PlanList TaskList

inductive PlanOp where
  | append (o d : Nat)                    -- plan.change(o, d)
  | appendWith (o d pl : Nat)             -- plan.changeWith(o, d, payload)
  | iterRemove (mask : List Bool)         -- for (it = begin(); it; ++it) if (mask) it.remove()   (also: consumption by firing)
  | clear                                 -- plan.clear() / plan-outcome clearing
  deriving Repr

def planStepC (p : Plan) : PlanOp → Plan
  | .append o d => (PlanList.append p o d).1
  | .appendWith o d pl => (PlanList.appendWith p o d pl).1
  | .iterRemove mask => (PlanList.iterate p mask).2
  | .clear => PlanList.clearTasks p

/-- the abstract step: a list with a capacity -/
def removeMaskedItems : List Item → List Bool → List Item
  | [], _ => []
  | x :: xs, [] => x :: xs
  | x :: xs, m :: ms => if m then removeMaskedItems xs ms else x :: removeMaskedItems xs ms

def planStepA (cap : Nat) (l : List Item) : PlanOp → List Item
  | .append o d => if l.length < cap then l ++ [⟨o, d, none⟩] else l
  | .appendWith o d pl => if l.length < cap then l ++ [⟨o, d, some pl⟩] else l
  | .iterRemove mask => removeMaskedItems l mask
  | .clear => []

theorem map_keepMask (f : Nat → Item) : ∀ (l : List Nat) (m : List Bool), (keepMask l m).map f = removeMaskedItems (l.map f) m
  | [], _ => rfl
  | x :: xs, [] => by rw [keepMask_nil]; rfl
  | x :: xs, false :: bs => congrArg (f x :: ·) (map_keepMask f xs bs)
  | x :: xs, true :: bs => map_keepMask f xs bs

/-- both appends: the abstract list grows by `t` exactly below capacity -/
theorem appendItem_refines {p : Plan} {vac order : List Nat} (h : PInv p vac order) (t : Item) :
    ∃ vac' order', PInv (appendItem p t).1 vac' order' ∧ (appendItem p t).1.tasks.cap = p.tasks.cap ∧
      absPlan (appendItem p t).1 order' =
        if (absPlan p order).length < p.tasks.cap then absPlan p order ++ [t] else absPlan p order := by
  rw [show (absPlan p order).length = p.tasks.count from (List.length_map _).trans h.cntEq]
  by_cases hc : p.tasks.count < p.tasks.cap
  · obtain ⟨q, vac', e, i1, i2, i3⟩ := appendItem_spec h t hc
    rw [e, if_pos hc]
    exact ⟨vac', _, i1, i2, i3⟩
  · rw [appendItem_full t hc, if_neg hc]
    exact ⟨vac, order, h, rfl, rfl⟩

/-- one step preserves the invariant and commutes with the abstraction; the capacity never changes -/
theorem planStep_refines {p : Plan} {vac order : List Nat} (h : PInv p vac order) (op : PlanOp) :
    ∃ vac' order', PInv (planStepC p op) vac' order' ∧ (planStepC p op).tasks.cap = p.tasks.cap ∧
      absPlan (planStepC p op) order' = planStepA p.tasks.cap (absPlan p order) op := by
  cases op with
  | append o d => rw [planStepC, append_eq]; exact appendItem_refines h ⟨o, d, none⟩
  | appendWith o d pl => rw [planStepC, appendWith_eq]; exact appendItem_refines h ⟨o, d, some pl⟩
  | iterRemove mask =>
    obtain ⟨_, vac', i1, i2, i3⟩ := iterate_spec h mask
    exact ⟨vac', _, i1, i2, (List.map_congr_left i3).trans (map_keepMask _ order mask)⟩
  | clear =>
    obtain ⟨vac', r, rc⟩ := clearTasks_spec h
    exact ⟨vac', [], r, rc, rfl⟩

/-- any operation sequence from any state that satisfies the invariant: the capacity stays, the abstraction commutes -/
theorem planSteps_refine {cap : Nat} (ops : List PlanOp) {p : Plan} {vac order : List Nat} (h : PInv p vac order)
    (hc : p.tasks.cap = cap) :
    ∃ vac' order', PInv (ops.foldl planStepC p) vac' order' ∧ (ops.foldl planStepC p).tasks.cap = cap ∧
      absPlan (ops.foldl planStepC p) order' = ops.foldl (planStepA cap) (absPlan p order) :=
  foldl_sim (R := fun p l => ∃ vac order, PInv p vac order ∧ p.tasks.cap = cap ∧ absPlan p order = l) (P := fun _ => True)
    (fun op ⟨_, _, h, hc, e⟩ _ => by
      obtain ⟨vac', order', r1, r2, r3⟩ := planStep_refines h op
      exact ⟨vac', order', r1, r2.trans hc, by rw [r3, e, hc]⟩)
    ops ⟨vac, order, h, hc, rfl⟩ fun _ _ => trivial

/-- **C10 refinement**: for every capacity `1 ≤ C ≤ 255` and every sequence of append /
    append-with-payload / iterator-remove / clear operations of any length, from the initial state:
    the concrete containers satisfy the representation invariant and present exactly the abstract
    list-with-capacity — so appending succeeds exactly when fewer than `C` tasks are present and
    otherwise leaves the plan untouched, order is append order, removal through an iterator does not
    disturb the rest, and no slot is ever leaked -/
theorem C10_refines (cap : Nat) (h1 : 1 ≤ cap) (h2 : cap ≤ 255) (ops : List PlanOp) :
    ∃ vac order, PInv (ops.foldl planStepC (PlanList.init cap)) vac order ∧
      (ops.foldl planStepC (PlanList.init cap)).tasks.cap = cap ∧
      absPlan (ops.foldl planStepC (PlanList.init cap)) order = ops.foldl (planStepA cap) [] :=
  planSteps_refine ops (pinv_init cap h1 h2) rfl

/-- **exact capacity** (single step, restated): append succeeds iff fewer than capacity tasks are present -/
theorem C10_append_exact {p : Plan} {vac order : List Nat} (h : PInv p vac order) (o d : Nat) :
    ((PlanList.append p o d).2 = true ↔ order.length < p.tasks.cap) ∧
    (¬ order.length < p.tasks.cap → (PlanList.append p o d).1 = p) := by
  rw [h.cntEq, append_eq]
  refine ⟨⟨fun ht => Decidable.by_contra fun hc => ?_, fun hc => ?_⟩, fun hc => by rw [appendItem_full _ hc]⟩
  · rw [appendItem_full _ hc] at ht; cases ht
  · obtain ⟨q, _, e, _⟩ := appendItem_spec h _ hc
    rw [e]

/-- **iteration, first(), last(), emptiness test are consistent with the abstract sequence** -/
theorem C10_observers {p : Plan} {vac order : List Nat} (h : PInv p vac order) :
    ((iterate p []).1.map Prod.snd = absPlan p order) ∧
    (nonEmpty p = !order.isEmpty) ∧
    (order ≠ [] → (absPlan p order).head? = some (firstTask p) ∧ (absPlan p order).getLast? = some (lastTask p)) := by
  refine ⟨?_, ?_, ?_⟩
  · rw [(iterate_spec h []).1, List.map_map]; rfl
  · unfold nonEmpty
    rw [h.firstEq]
    cases order with
    | nil => exact decide_eq_false (invalid_not_lt h)
    | cons x r => exact decide_eq_true (order_lt_cap h x List.mem_cons_self)
  · intro hne
    unfold absPlan firstTask lastTask
    rw [h.firstEq, h.lastEq]
    cases order with
    | nil => exact absurd rfl hne
    | cons x r =>
      exact ⟨rfl, by rw [List.getLast?_map, List.getLast?_cons]; rfl⟩

/-- **slots are reusable indefinitely**: whatever the history, once the plan is empty the full
    capacity is available again — `cap` consecutive appends all succeed -/
theorem C10_capacity_recovers (cap : Nat) (h1 : 1 ≤ cap) (h2 : cap ≤ 255) (ops : List PlanOp)
    (hempty : ops.foldl (planStepA cap) [] = []) (k : Nat) (hk : k ≤ cap) (tasks : List (Nat × Nat)) (hl : tasks.length = k) :
    (tasks.foldl (fun l t => planStepA cap l (.append t.1 t.2)) (ops.foldl (planStepA cap) [])).length = k := by
  rw [hempty]
  have gen : ∀ (tasks : List (Nat × Nat)) (l : List Item), l.length + tasks.length ≤ cap →
      (tasks.foldl (fun l t => planStepA cap l (.append t.1 t.2)) l).length = l.length + tasks.length := by
    intro tasks
    induction tasks with
    | nil => intro l _; rfl
    | cons t ts ih =>
      intro l hle
      have hlt : l.length < cap := Nat.lt_of_lt_of_le (Nat.lt_add_of_pos_right (Nat.succ_pos _)) hle
      have hstep : planStepA cap l (.append t.1 t.2) = l ++ [⟨t.1, t.2, none⟩] := if_pos hlt
      have hlen : (l ++ [(⟨t.1, t.2, none⟩ : Item)]).length = l.length + 1 := List.length_append
      rw [List.foldl_cons, hstep, ih _ (by rw [hlen, Nat.add_right_comm]; exact hle), hlen]
      exact Nat.add_right_comm _ _ _
  rw [gen tasks [] (by rw [hl, List.length_nil, Nat.zero_add]; exact hk), hl]
  exact Nat.zero_add k

/-- non-vacuity: capacity 3 — fill, drop the middle task through an iterator, refill: slot 1 is reused
    and the plan order is append order -/
example :
    let p := [PlanOp.append 1 2, .appendWith 2 3 7, .append 3 4, .append 9 9, .iterRemove [false, true], .append 5 6].foldl planStepC (PlanList.init 3)
    (iterate p []).1 = [(0, ⟨1, 2, none⟩), (2, ⟨3, 4, none⟩), (1, ⟨5, 6, none⟩)] ∧ p.tasks.count = 3 := by decide +kernel

end FFSM2
