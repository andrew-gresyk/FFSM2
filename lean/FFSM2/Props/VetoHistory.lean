import FFSM2.Props.History
import FFSM2.Lemmas.CancelTrack
import FFSM2.Props.C03
/-!
# C03 over whole histories: once the exit guard has cancelled, the entry guard is not consulted

`C03_history_exit_veto_skips_entry` — any world, `immediateChangeTo(d)` on an active instance: in every guard round the
call evaluates, if a callback of the *exit* guard (the state's own or an injected base's) performed
`cancelPendingTransition()`, that round delivers no `entryGuard` at all.
-/
namespace FFSM2
open Step Ancestors

/-- the guard rounds of one processing point, each as the list of events it produced -/
def roundEvs (env : Env) (s : St) : List (List Ev) :=
  if s.core.request.valid then substRoundEvs (guardRound env) (substFuel env.cfg.L) {} s else []

theorem survivor_all_cancelled (cur : Tr) (rounds : List (Tr × Bool)) (h : ∀ r ∈ rounds, r.2 = true) : survivor cur rounds = cur :=
  (survivor_cases cur rounds).resolve_right fun ⟨r, hr, h2, _⟩ => by rw [h r hr] at h2; cases h2

theorem rounds_flags (env : Env) (s : St) : (processRounds env s).map (·.2) = (roundEvs env s).map hasCancel := by
  unfold processRounds roundEvs
  split
  · exact (substLoop_rounds (guardRound env) (guardRound_cancelled env) _ _ _).2
  · rfl

/-- **C03 on what user code does**: (a) if in every guard round of a processing point some guard performed
    `cancelPendingTransition()`, nothing is applied — no lifecycle callback, same active state; (b) if the
    active state changed, some round ran without any performed cancellation, and the new active state is the
    destination that round was asked about -/
theorem C03_veto_on_events (env : Env) (s : St) :
    ((∀ es ∈ roundEvs env s, hasCancel es = true) →
        (processRequest env s).1.core.active = s.core.active ∧ sig (processRequest env s).2 = []) ∧
    ((processRequest env s).1.core.active ≠ s.core.active →
        ∃ k, ∃ hk : k < (processRounds env s).length, ∃ hk' : k < (roundEvs env s).length,
          hasCancel ((roundEvs env s)[k]) = false ∧ (processRequest env s).1.core.active = ((processRounds env s)[k]).1.dest) := by
  have hspec := processRequest_spec env s
  have hflags := rounds_flags env s
  have hlen : (processRounds env s).length = (roundEvs env s).length := by
    have := congrArg List.length hflags; simpa using this
  have hk_flag : ∀ k (hk : k < (processRounds env s).length) (hk' : k < (roundEvs env s).length),
      ((processRounds env s)[k]).2 = hasCancel ((roundEvs env s)[k]) :=
    fun k hk hk' => by simpa [hk, hk'] using congrArg (·[k]?) hflags
  constructor
  · intro hall
    have hr : ∀ r ∈ processRounds env s, r.2 = true := by
      intro r hr
      obtain ⟨k, hk, rfl⟩ := List.getElem_of_mem hr
      rw [hk_flag k hk (by omega)]
      exact hall _ (List.getElem_mem _)
    have hsv : survivor {} (processRounds env s) = {} := survivor_all_cancelled _ _ hr
    have hinv : (survivor {} (processRounds env s)).valid = false := by rw [hsv]; rfl
    exact hspec.2.2.2.1 hinv
  · intro hne
    rcases C03_veto_respected {} (processRounds env s) with e | ⟨r, hr, hr2, e⟩
    · have hinv : (survivor {} (processRounds env s)).valid = false := by rw [e]; rfl
      exact absurd (hspec.2.2.2.1 hinv).1 hne
    · obtain ⟨k, hk, rfl⟩ := List.getElem_of_mem hr
      have hv : (survivor {} (processRounds env s)).valid = true := by
        cases hv : (survivor {} (processRounds env s)).valid
        · exact absurd (hspec.2.2.2.1 hv).1 hne
        · rfl
      refine ⟨k, hk, by omega, ?_, ?_⟩
      · rw [← hk_flag k hk (by omega)]; exact hr2
      · rw [(hspec.2.2.2.2 hv).1, e]

/-- **C03 over whole histories**: `immediateChangeTo(d)` from any world: if some guard performed a
    cancellation in every round the call evaluated, the instance's active state is what it was and the call ran
    no `enter` / `exit` / `reenter` -/
theorem C03_history_vetoed_call (cfg : Cfg) (beh : Beh) (w : World) (k i d : Nat) (c : Core) (hg : w.get i = some c)
    (hall : ∀ es ∈ roundEvs ⟨cfg, beh, i, k⟩ (extChange ⟨cfg, beh, i, k⟩ d none { core := c }).1, hasCancel es = true) :
    actOf ((stepAll cfg beh w k (.immediateChangeTo i d)).1.get i) = c.active ∧
    sig (stepAll cfg beh w k (.immediateChangeTo i d)).2 = [] := by
  rw [stepAll_guard (op := .immediateChangeTo i d) rfl hg rfl]
  dsimp only [Op.inst, Op.name]
  split
  · have h := (C03_veto_on_events ⟨cfg, beh, i, k⟩ (extChange ⟨cfg, beh, i, k⟩ d none { core := c }).1).1 hall
    rw [onCore_get, onCore_inner sig_inner, seq_snd, sig_append]
    refine ⟨h.1, ?_⟩
    rw [h.2, List.append_nil]
    exact sig_logEv _ _ _
  · exact ⟨by rw [hg]; rfl, rfl⟩

/-- a cancellation performed by an exit-guard callback -/
def Ev.isExitCancel : Ev → Bool
  | .act k .cancel => k.method == .exitGuard
  | _ => false

def hasExitCancel (es : List Ev) : Bool := es.any Ev.isExitCancel

theorem hasExitCancel_append (a b : List Ev) : hasExitCancel (a ++ b) = (hasExitCancel a || hasExitCancel b) := by
  simp [hasExitCancel, List.any_append]

/-- an exit-guard cancellation is in particular a cancellation -/
theorem hasCancel_of_exitCancel {es : List Ev} (h : hasExitCancel es = true) : hasCancel es = true := by
  unfold hasExitCancel at h
  unfold hasCancel
  rw [List.any_eq_true] at h ⊢
  obtain ⟨e, he, hx⟩ := h
  refine ⟨e, he, ?_⟩
  cases e with
  | act k a => cases a <;> first | rfl | (simp [Ev.isExitCancel] at hx)
  | _ => simp [Ev.isExitCancel] at hx

/-- the actions of an entry-guard delivery are keyed to `entryGuard` -/
theorem noExitCancel_deliver_entry (env : Env) (sid : Nat) (cur pend : Tr) (s : St) :
    hasExitCancel (deliver env .entryGuard sid cur pend s).2 = false :=
  List.any_eq_false.mpr fun e he => Bool.not_eq_true _ ▸ deliver_forall (P := fun e => e.isExitCancel = false) rfl (fun _ _ _ => rfl)
    (fun _ _ e h => by cases h with
      | act a => cases a <;> rfl
      | log r _ => rfl) s e he

/-- one round: an exit-guard cancellation means no entry guard is delivered in it -/
theorem guardRound_exit_veto (env : Env) (cur pend : Tr) (s : St)
    (h : hasExitCancel (guardRound env cur pend s).2 = true) :
    (guardRound env cur pend s).2.filter Ev.isEntryGuard = [] := by
  cases hc : (exitHalf env cur pend s).1.cancelled
  · have ht : (exitHalf env cur pend s).1.cancelled = (false || hasCancel (exitHalf env cur pend s).2) := by
      rw [exitHalf_eq]; exact tracks_deliver env .exitGuard s.core.active cur pend _
    have hsplit : (guardRound env cur pend s).2 = (exitHalf env cur pend s).2 ++
        (deliver env .entryGuard (exitHalf env cur pend s).1.core.requested cur pend (exitHalf env cur pend s).1).2 := by
      show ((exitHalf env cur pend ⋙ _) s).2 = _
      simp only [Step.seq, hc]
      rfl
    rw [hsplit, hasExitCancel_append, noExitCancel_deliver_entry, Bool.or_false] at h
    rw [hc, hasCancel_of_exitCancel h] at ht
    cases ht
  · exact (C03_exit_veto_skips_entry env cur pend s hc).2

theorem substRoundEvs_exit_veto (env : Env) : ∀ (fuel : Nat) (cur : Tr) (s : St),
    ∀ es ∈ substRoundEvs (guardRound env) fuel cur s, hasExitCancel es = true → es.filter Ev.isEntryGuard = []
  | 0, _, _, _, he, _ => nomatch he
  | fuel + 1, cur, s, es, he, hx => by
    rw [substRoundEvs_succ] at he
    revert he
    cases s.core.request.valid
    · nofun
    · cases cur.ne ⟨255, s.core.request.dest, none⟩
      · exact fun he => substRoundEvs_exit_veto env fuel _ _ es he hx
      · intro he
        rcases List.mem_cons.mp he with rfl | he
        · exact guardRound_exit_veto env _ _ _ hx
        · exact substRoundEvs_exit_veto env fuel _ _ es he hx

/-- **C03 over whole histories — once the exit guard has cancelled, the entry guard is not consulted.**  Any world,
    `immediateChangeTo(d)`: in every guard round the call evaluates (`roundEvs`: the events of each round, in order —
    their concatenation is the guard part of the call's trace), an exit-guard callback that cancels means the round
    delivers no `entryGuard`. -/
theorem C03_history_exit_veto_skips_entry (cfg : Cfg) (beh : Beh) (i k d : Nat) (c : Core) :
    ∀ es ∈ roundEvs ⟨cfg, beh, i, k⟩ { core := { c with request := ⟨255, d, none⟩ } },
      hasExitCancel es = true → es.filter Ev.isEntryGuard = [] := by
  intro es he hx
  unfold roundEvs at he
  split at he
  · exact substRoundEvs_exit_veto _ _ _ _ es he hx
  · cases he

/-- non-vacuity: the exit guard of the active state cancels; the round consists of the exit guard's delivery only -/
example :
    let cfg : Cfg := { n := 2, L := 2, cap := 1 }
    let beh : Beh := fun k => if k.method = .exitGuard then [.cancel] else []
    let env : Env := ⟨cfg, beh, 0, 1⟩
    let c : Core := { (initCore cfg false) with active := 0 }
    (roundEvs env { core := { c with request := ⟨255, 1, none⟩ } }).map hasExitCancel = [true] ∧
    ((roundEvs env { core := { c with request := ⟨255, 1, none⟩ } }).map (fun es => (es.filter Ev.isEntryGuard).length)) = [0] := by
  decide +kernel

end FFSM2
