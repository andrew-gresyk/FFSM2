import FFSM2.Props.C13
import FFSM2.Props.C01
/-!
# C12 — Serialization round-trips the activity state and is canonical

Built on the bit-stream theorems of C13 (`save`/`load` call the literal `write<N>`/`read<N>` ports)
and on the serial-width definitions translated from the source (`Gen.serialBits`, `Gen.widthBits`).
-/
namespace FFSM2
open Step BitStream

theorem widthBits_pos {n : Nat} (hn : 1 ≤ n) (hn2 : n ≤ 255) : 1 ≤ Gen.widthBits n ∧ Gen.widthBits n ≤ 8 := by
  obtain ⟨h1, h2⟩ := C13_bitWidth_spec n (by omega)
  unfold Gen.widthBits
  have hb : Gen.bitWidth n ≠ 0 := fun h0 => by rw [h0] at h1; omega
  have := (Nat.pow_lt_pow_iff_right (by decide : 1 < 2)).mp
    (Nat.lt_of_le_of_lt (h2.resolve_left hb) (by omega : n < 2 ^ 8))
  omega

/-- **the buffer capacity suffices for every state count**: activity bit + index bits ≤ 9 ≤ capacity -/
theorem C12_bits_suffice (cfg : Cfg) (h : cfg.WF) :
    serialBits cfg = 1 + Gen.widthBits cfg.n ∧ serialBits cfg ≤ 9 ∧ ∀ a, a < cfg.n → a < 2 ^ Gen.widthBits cfg.n := by
  have hw := widthBits_pos h.n_pos h.n_le
  refine ⟨rfl, ?_, fun a ha => C13_bitWidth_suffices cfg.n h.n_le a ha⟩
  simp only [serialBits, Gen.serialBits, Gen.activeBits]; omega

/-- what `save` writes for an active machine, in terms of the stream: invariant kept, cursor =
    declared capacity, content = `1 + 2·active` -/
theorem save_active_spec (cfg : Cfg) (h : cfg.WF) (c : Core) (ha : c.active < cfg.n) :
    let buf := save cfg c
    StreamInv (serialBits cfg) buf (serialBits cfg) ∧ bitsOf buf = 1 + 2 * c.active := by
  intro buf
  have hw := widthBits_pos h.n_pos h.n_le
  have hcap : serialBits cfg = 1 + Gen.widthBits cfg.n := rfl
  have hne : ¬ (cfg.manual && c.active == 255) = true := by
    have : c.active ≠ 255 := by have := h.n_le; omega
    simp [this]
  have inv0 := C13_init (serialBits cfg) (by rw [hcap]; omega)
  obtain ⟨b1, c1, inv1⟩ := C13_write_spec (v := 1) inv0 (Nat.le_refl 1) (by decide) (by decide) (by rw [hcap]; omega)
  have hv : c.active < 2 ^ Gen.widthBits cfg.n := C13_bitWidth_suffices cfg.n h.n_le _ ha
  rw [c1] at inv1
  obtain ⟨b2, c2, inv2⟩ := C13_write_spec (v := c.active) inv1 hw.1 (by omega) hv (by rw [hcap]; omega)
  have hbuf : buf = (write (Gen.widthBits cfg.n) (write 1 (clearBuf (serialBits cfg)) 0 1).1 (0 + 1) c.active).1 := by
    show save cfg c = _
    unfold save
    rw [if_neg hne]
    simp only [c1]
  rw [hbuf]
  refine ⟨?_, ?_⟩
  · rw [c2] at inv2
    have : 0 + 1 + Gen.widthBits cfg.n = serialBits cfg := by rw [hcap]
    rw [this] at inv2; exact inv2
  · rw [b2, b1]
    simp [clearBuf, bitsOf_replicate_zero, Nat.mul_comm]

/-- decoding a saved active machine: activity bit 1, then the active index -/
theorem load_decode_active (cfg : Cfg) (h : cfg.WF) (c : Core) (ha : c.active < cfg.n) :
    read 1 (save cfg c) 0 = (1, 1) ∧ read (Gen.widthBits cfg.n) (save cfg c) 1 = (c.active, 1 + Gen.widthBits cfg.n) := by
  obtain ⟨inv, hb⟩ := save_active_spec cfg h c ha
  have hw := widthBits_pos h.n_pos h.n_le
  have hv : c.active < 2 ^ Gen.widthBits cfg.n := C13_bitWidth_suffices cfg.n h.n_le _ ha
  rw [C13_read_spec inv.bytes (by decide), C13_read_spec inv.bytes (by omega), hb]
  constructor
  · simp
  · simp only [Nat.pow_one]
    have : (1 + 2 * c.active) / 2 = c.active := by omega
    rw [this, Nat.mod_eq_of_lt hv]

/-- a saved inactive (manual) machine: a single 0 bit -/
theorem load_decode_inactive (cfg : Cfg) (h : cfg.WF) (c : Core) (hm : cfg.manual = true) (ha : c.active = 255) :
    read 1 (save cfg c) 0 = (0, 1) := by
  have hw := widthBits_pos h.n_pos h.n_le
  have hcap : serialBits cfg = 1 + Gen.widthBits cfg.n := rfl
  have inv0 := C13_init (serialBits cfg) (by rw [hcap]; omega)
  obtain ⟨b1, c1, inv1⟩ := C13_write_spec (v := 0) inv0 (Nat.le_refl 1) (by decide) (by decide) (by rw [hcap]; omega)
  have hbuf : save cfg c = (write 1 (clearBuf (serialBits cfg)) 0 0).1 := by simp [save, hm, ha]
  rw [hbuf, C13_read_spec inv1.bytes (by decide), b1]
  simp [clearBuf, bitsOf_replicate_zero]

/-- `load` of what an active machine saved: the saver's state is entered, from an active loader by a change, from an
    inactive one (manual activation) by activation -/
theorem load_save_active (env : Env) (h : env.cfg.WF) (sc : Core) (ha : sc.active < env.cfg.n) (s : St) :
    load env (save env.cfg sc) s =
      if s.core.active != 255 then loadActive env sc.active s
      else if env.cfg.manual then (modifyCore (fun c => { c with requested := sc.active }) ⋙ deepEnter env {}) s else skip s := by
  obtain ⟨d1, d2⟩ := load_decode_active env.cfg h sc ha
  rw [load_eq, d1, d2]
  rfl

/-- `load` of what an inactive machine saved (manual activation): the loader's final exit, if it is active -/
theorem load_save_inactive (env : Env) (h : env.cfg.WF) (hm : env.cfg.manual = true) (sc : Core) (ha : sc.active = 255) (s : St) :
    load env (save env.cfg sc) s = if s.core.active != 255 then finalExit env s else skip s := by
  rw [load_eq, load_decode_inactive env.cfg h sc hm ha, hm]
  rfl

/-- what `loadActive` makes of the registry: the lifecycle of one change to the requested state -/
theorem loadActive_spec (env : Env) (r : Nat) (s : St) :
    (loadActive env r s).1.core.active = r ∧
    sig (loadActive env r s).2 = if r != s.core.active then [(.exit, s.core.active), (.enter, r)] else [(.reenter, s.core.active)] := by
  rw [loadActive_eq]
  have h := changeToRequested_spec env {} { s with core := wipe env.cfg { s.core with requested := r, request := s.core.request.clear } }
  rw [(wipe_registry _ _).1, (wipe_registry _ _).2] at h
  simp only [Step.seq, modifyCore, List.nil_append]
  exact ⟨h.1, h.2.2⟩

/-- **round trip, active saver**: whatever the loader's own state (active in any state with any
    request / plan / history outstanding, or — manual — inactive), after `load(save(saver))` the
    loader's active state is the saver's; no guard is consulted -/
theorem C12_roundtrip_active (env : Env) (h : env.cfg.WF) (saver : Core) (ha : saver.active < env.cfg.n) (s : St)
    (hs : s.core.active ≠ 255 ∨ env.cfg.manual = true) :
    (load env (save env.cfg saver) s).1.core.active = saver.active ∧
    (load env (save env.cfg saver) s).2.filter Ev.isGuard = [] := by
  refine ⟨?_, noGuard_load env _ s⟩
  rw [load_save_active env h saver ha]
  by_cases hact : s.core.active = 255
  · rw [if_neg (by simp [hact]), if_pos (hs.resolve_left fun h => h hact)]
    simp only [Step.seq, modifyCore]
    exact (deepEnter_spec env {} _).1
  · rw [if_pos (by simpa using hact)]
    exact (loadActive_spec env _ s).1

/-- **round trip, inactive saver** (manual activation): an active loader performs its final exit, an
    inactive one stays inactive -/
theorem C12_roundtrip_inactive (env : Env) (h : env.cfg.WF) (hm : env.cfg.manual = true) (saver : Core)
    (ha : saver.active = 255) (s : St) :
    (load env (save env.cfg saver) s).1.core.active = 255 := by
  rw [load_save_inactive env h hm saver ha]
  split
  · exact (C01_finalExit env s).1
  · rename_i hact; exact show s.core.active = 255 by simpa using hact

/-- **load performs exactly the lifecycle needed**: `reenter` when the loader is already in the
    saver's state, `exit(old); enter(new)` otherwise (active → active case) -/
theorem C12_load_lifecycle (env : Env) (h : env.cfg.WF) (saver : Core) (ha : saver.active < env.cfg.n) (s : St)
    (hact : s.core.active ≠ 255) :
    sig (load env (save env.cfg saver) s).2 =
      if saver.active != s.core.active then [(.exit, s.core.active), (.enter, saver.active)]
      else [(.reenter, s.core.active)] := by
  rw [load_save_active env h saver ha, if_pos (by simpa using hact)]
  exact (loadActive_spec env _ s).2

/-- **save does not modify the machine** (it is a function of the configuration and the core and
    returns only bytes) and **writes nothing beyond the declared capacity**: the cursor ends at
    `SERIAL_BITS`, every byte index stays inside the `BYTE_COUNT`-byte buffer -/
theorem C12_save_within_capacity (cfg : Cfg) (h : cfg.WF) (c : Core) (ha : c.active < cfg.n) :
    (save cfg c).length = byteCount (serialBits cfg) ∧ BytesOk (save cfg c) ∧
    bitsOf (save cfg c) < 2 ^ serialBits cfg := by
  obtain ⟨inv, _⟩ := save_active_spec cfg h c ha
  exact ⟨inv.length, inv.bytes, inv.tail⟩

theorem bitsOf_injective : ∀ {a b : List Nat}, BytesOk a → BytesOk b → a.length = b.length → bitsOf a = bitsOf b → a = b := by
  intro a
  induction a with
  | nil => intro b _ _ hl _; cases b <;> simp_all
  | cons x xs ih =>
    intro b ha hb hl he
    cases b with
    | nil => simp at hl
    | cons y ys =>
      have ⟨hx, hxs⟩ := bytesOk_cons.mp ha
      have ⟨hy, hys⟩ := bytesOk_cons.mp hb
      obtain ⟨hxy, hrest⟩ := split_unique hx hy he
      rw [hxy, ih hxs hys (Nat.succ.inj hl) hrest]

/-- **canonical**: two (active) machines produce equal buffers if and only if their active states
    are equal — whatever else differs (requests, plans, history, task reports) -/
theorem C12_canonical (cfg : Cfg) (h : cfg.WF) (c1 c2 : Core) (h1 : c1.active < cfg.n) (h2 : c2.active < cfg.n) :
    save cfg c1 = save cfg c2 ↔ c1.active = c2.active := by
  obtain ⟨i1, b1⟩ := save_active_spec cfg h c1 h1
  obtain ⟨i2, b2⟩ := save_active_spec cfg h c2 h2
  constructor
  · intro e
    have : bitsOf (save cfg c1) = bitsOf (save cfg c2) := by rw [e]
    rw [b1, b2] at this; omega
  · intro e
    apply bitsOf_injective i1.bytes i2.bytes (by rw [i1.length, i2.length])
    rw [b1, b2, e]

/-- … and an inactive (manual) machine never collides with an active one -/
theorem C12_canonical_inactive (cfg : Cfg) (h : cfg.WF) (hm : cfg.manual = true) (c1 c2 : Core)
    (h1 : c1.active = 255) (h2 : c2.active < cfg.n) : save cfg c1 ≠ save cfg c2 := by
  intro e
  have d1 := load_decode_inactive cfg h c1 hm h1
  have d2 := (load_decode_active cfg h c2 h2).1
  rw [e, d2] at d1
  cases d1

/-- non-vacuity: 200 states, state 133 active: two bytes `0B 01`, loader in state 5 ends in 133 -/
example :
    let cfg : Cfg := { n := 200, L := 1, cap := 1 }
    save cfg { active := 133 } = [0x0B, 0x01] ∧
    (load ⟨cfg, fun _ => [], 0, 0⟩ (save cfg { active := 133 }) { core := { active := 5 } }).1.core.active = 133 := by
  decide +kernel

end FFSM2
