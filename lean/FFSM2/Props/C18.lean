import FFSM2.Layout
import FFSM2.Props.C13
import FFSM2.Props.C20
import FFSM2.Props.C14
import FFSM2.Lemmas.PlanList
/-!
# C18 — No dynamic allocation and no undefined behaviour on any in-contract history   (partial)

A theorem about a model cannot exhibit heap allocation or undefined behaviour of compiled C++; that
part of the property is *executed* (both correspondence harnesses rebuilt with ASan + UBSan at `-O0`,
allocator interposition, symbol scan).  What the model can carry — and what is proved here — is the
arithmetic the C++ relies on to stay inside its arrays and to keep payloads aligned:
every index the container engines compute is in range under their invariants, and the payload
storage is aligned after the F5 repair.
-/
namespace FFSM2
open Layout

theorem alignUp_mod (n a : Nat) : alignUp n a % a = 0 := Nat.mul_mod_left _ _

/-- **payload storage is aligned** (post-F5 layout: the derived templates are defined outside the
    `pack(1)` region): for every alignment `A` and every suitably aligned object address `base`, the
    address of `storage` is a multiple of `A` -/
theorem C18_payload_aligned (A baseSize base : Nat) (hA : 0 < A) (hbase : base % structAlign A none = 0) :
    (base + storageOffset baseSize A none) % A = 0 := by
  simp only [structAlign, storageOffset, memberAlign] at *
  rw [Nat.add_mod, hbase, alignUp_mod]; simp

/-- the witness of the defect F5 repaired: under `pack(1)` an 8-aligned payload lands at offset 3 -/
example : storageOffset 3 8 (some 1) = 3 ∧ (0 + storageOffset 3 8 (some 1)) % 8 ≠ 0 ∧ storageOffset 3 8 none = 8 := by decide +kernel

/-- **bit stream**: every byte index touched by `write<N>` / `read<N>` within the declared capacity is
    inside the `BYTE_COUNT`-byte buffer (= C13_byteIndex_in_range) -/
theorem C18_stream_index {cap cursor w : Nat} (hfit : cursor + w ≤ cap) :
    ∀ c, cursor ≤ c → c < cursor + w → c >>> 3 < BitStream.byteCount cap := C13_byteIndex_in_range hfit

/-- **bit array**: the unit index of every in-range bit index is inside the storage -/
theorem C18_bitarray_index {cap i : Nat} (hi : i < cap) : i / 8 < BitArray.unitCount cap := C20_unit_index_in_range hi

/-- **task list**: the slot `emplace` writes is inside the item array, and it returns INVALID (255)
    rather than an index when full -/
theorem C18_tasklist_index {s : TaskList.TL} {vac : List Nat} (h : TaskList.Inv s vac) (t : TaskList.Item) :
    (s.count < s.cap → (TaskList.emplace s t).2 < s.items.length) ∧
    (¬ s.count < s.cap → (TaskList.emplace s t).2 = 255) := by
  constructor
  · intro hc
    obtain ⟨_, _, hidx, _⟩ := TaskList.emplace_spec h hc t
    rw [hidx, h.len]; exact h.head_lt hc
  · intro hc; rw [TaskList.emplace_full s t hc]

/-- **task links / bounds**: every index stored in the plan's order (hence `first`, `last`, every
    `prev`/`next` followed by an iterator) is below the capacity -/
theorem C18_links_index {p : PlanList.Plan} {vac order : List Nat} (h : PlanList.PInv p vac order) :
    (∀ j ∈ order, j < p.links.length ∧ j < p.tasks.items.length) ∧
    (p.first = 255 ∨ p.first < p.links.length) ∧ (p.last = 255 ∨ p.last < p.links.length) := by
  have hlo := PlanList.order_lt_cap h
  rw [h.linksLen, h.tl.len, h.firstEq, h.lastEq]
  refine ⟨fun j hj => ⟨hlo j hj, hlo j hj⟩, ?_, ?_⟩
  · cases order with
    | nil => exact .inl rfl
    | cons x r => exact .inr (hlo x List.mem_cons_self)
  · by_cases hne : order = []
    · exact .inl (hne ▸ rfl)
    · exact .inr (hlo _ (getLast?_getD_mem hne 255))

/-- **dispatch**: a prong below the state count always reaches a leaf (never falls off the tree) -/
theorem C18_dispatch_prong {α : Type} (l : List α) (k : Nat) (hk : k < l.length) :
    ∃ v, Dispatch.wide (Dispatch.cs l.length l 0 0) k = some (k, v) :=
  ⟨l[k], C14_dispatch l k l[k] (List.getElem?_eq_getElem hk)⟩

/-- **no wrap-around of the small integers**: ids, cursors and counts stay below 256 (`uint8_t`) -/
theorem C18_no_wrap {s : TaskList.TL} {vac : List Nat} (h : TaskList.Inv s vac) :
    s.count ≤ 255 ∧ s.last ≤ 255 ∧ s.cap ≤ 255 := by
  have := h.cnt; have := TaskList.bound_le_cap s; have := h.capLe; have := h.lastLe
  omega

end FFSM2
