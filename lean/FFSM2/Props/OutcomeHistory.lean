import FFSM2.Props.History
import FFSM2.Props.C02
import FFSM2.Props.C07
/-!
# C02 over whole histories: the outcome of every processing point, from any world

`C02_history_immediate_outcome` — `immediateChangeTo(d)` / `immediateChangeWith(d, p)` on an active instance of any
world: with `cur` the most recent request of that processing point that was not cancelled by a guard (the ghost
`survivor` of the rounds actually evaluated), the call runs no lifecycle callback and leaves the active state alone
when there is none; runs `reenter` alone when `cur` names the active state; runs `exit(old)` then `enter(cur.dest)`
otherwise — and the instance ends in `cur.dest`.

`C02_history_update_outcome` / `C02_history_react_outcome` — the same for `update()` / `react()`, whose processing point
comes after the phases and the plan step: none of those touches the active state or runs a lifecycle callback.

Also here, because they read the same survivor: `C11_history_immediate_prev` / `C11_history_update_prev` (what
`previousTransition()` records), `C07_history_lifecycle_sees_survivor` (what the lifecycle callbacks are shown as
`currentTransition()`), and `C02_history_request_inert`.
-/
namespace FFSM2
open Step

/-- the outcome of a processing point that starts in `s`: the lifecycle trace and the resulting active state -/
def OutcomeOf (env : Env) (s : St) (lifeSig : List (Method × Nat)) (activeAfter : Nat) : Prop :=
  let cur := survivor {} (processRounds env s)
  (cur.valid = false → activeAfter = s.core.active ∧ lifeSig = []) ∧
  (cur.valid = true → activeAfter = cur.dest ∧
    lifeSig = if cur.dest != s.core.active then [(Method.exit, s.core.active), (Method.enter, cur.dest)]
              else [(Method.reenter, s.core.active)])

theorem outcomeOf_cycle (env : Env) (pre mid post : Method)
    (h1 : pre.isLife = false) (h2 : mid.isLife = false) (h3 : post.isLife = false) (s : St) :
    (prelude env pre mid post s).1.core.active = s.core.active ∧
    OutcomeOf env (prelude env pre mid post s).1 (sig (cycle env pre mid post s).2) (cycle env pre mid post s).1.core.active := by
  obtain ⟨e0, e1, e2⟩ := C02_cycle_outcome env pre mid post h1 h2 h3 s
  rw [e1, e2]
  exact ⟨e0, C02_outcome env _⟩

/-- **C02 over whole histories — `immediateChangeTo` / `immediateChangeWith`.**  Any world, an active instance
    holding core `c`, destination in range: the call's lifecycle callbacks and the state it ends in are exactly the
    outcome of one processing point started with the request `(none, d, p)` outstanding. -/
theorem C02_history_immediate_outcome (cfg : Cfg) (beh : Beh) (w : World) (k i d : Nat) (c : Core)
    (hg : w.get i = some c) (hcond : (c.active != 255 && idOk cfg d) = true) :
    let env : Env := ⟨cfg, beh, i, k⟩
    let s1 : St := { core := { c with request := ⟨255, d, none⟩ } }
    OutcomeOf env s1 (sig (stepAll cfg beh w k (.immediateChangeTo i d)).2)
      (actOf ((stepAll cfg beh w k (.immediateChangeTo i d)).1.get i)) := by
  intro env s1
  rw [stepAll_immediateChangeTo cfg beh k hg hcond, onCore_inner sig_inner, onCore_get]
  rw [immediate_eq, sig_append, sig_logEv, List.nil_append]
  exact C02_outcome env s1

theorem C02_history_immediate_with_outcome (cfg : Cfg) (beh : Beh) (w : World) (k i d p : Nat) (c : Core)
    (hg : w.get i = some c) (hcond : (c.active != 255 && idOk cfg d && cfg.hasPayload) = true) :
    let env : Env := ⟨cfg, beh, i, k⟩
    let s1 : St := { core := { c with request := ⟨255, d, some p⟩ } }
    OutcomeOf env s1 (sig (stepAll cfg beh w k (.immediateChangeWith i d p)).2)
      (actOf ((stepAll cfg beh w k (.immediateChangeWith i d p)).1.get i)) := by
  intro env s1
  rw [stepAll_immediateChangeWith cfg beh k hg hcond, onCore_inner sig_inner, onCore_get]
  rw [immediate_eq, sig_append, sig_logEv, List.nil_append]
  exact C02_outcome env s1

/-- **C02 over whole histories — `update()`**: the lifecycle of the call is exactly the outcome of its processing
    point, which starts from what the phases and the plan step left (`prelude`), with the active state still the one
    the call began in -/
theorem C02_history_update_outcome (cfg : Cfg) (beh : Beh) (w : World) (k i : Nat) (c : Core)
    (hg : w.get i = some c) (ha : c.active ≠ 255) :
    let env : Env := ⟨cfg, beh, i, k⟩
    let s1 : St := (prelude env .preUpdate .update .postUpdate { core := c }).1
    s1.core.active = c.active ∧
    OutcomeOf env s1 (sig (stepAll cfg beh w k (.update i)).2) (actOf ((stepAll cfg beh w k (.update i)).1.get i)) := by
  rw [stepAll_update cfg beh k hg ha, onCore_inner sig_inner, onCore_get]
  exact outcomeOf_cycle _ _ _ _ rfl rfl rfl _

theorem C02_history_react_outcome (cfg : Cfg) (beh : Beh) (w : World) (k i : Nat) (c : Core)
    (hg : w.get i = some c) (ha : c.active ≠ 255) :
    let env : Env := ⟨cfg, beh, i, k⟩
    let s1 : St := (prelude env .preReact .react .postReact { core := c }).1
    s1.core.active = c.active ∧
    OutcomeOf env s1 (sig (stepAll cfg beh w k (.react i)).2) (actOf ((stepAll cfg beh w k (.react i)).1.get i)) := by
  rw [stepAll_react cfg beh k hg ha, onCore_inner sig_inner, onCore_get]
  exact outcomeOf_cycle _ _ _ _ rfl rfl rfl _

/-- **C11 over whole histories — the history records the survivor.**  With transition history enabled, after
    `immediateChangeTo(d)` from any world `previousTransition()` is exactly the most recent request of that processing
    point that was not cancelled by a guard (empty if there is none) — origin, destination and payload alike -/
theorem C11_history_immediate_prev (cfg : Cfg) (beh : Beh) (w : World) (k i d : Nat) (c c' : Core)
    (hg : w.get i = some c) (hcond : (c.active != 255 && idOk cfg d) = true) (hh : cfg.history = true)
    (hget : (stepAll cfg beh w k (.immediateChangeTo i d)).1.get i = some c') :
    c'.prev = survivor {} (processRounds ⟨cfg, beh, i, k⟩ { core := { c with request := ⟨255, d, none⟩ } }) := by
  rw [stepAll_immediateChangeTo cfg beh k hg hcond, onCore_get] at hget
  cases hget
  exact (processRequest_spec ⟨cfg, beh, i, k⟩ { core := { c with request := ⟨255, d, none⟩ } }).2.2.1 hh

/-- … and after `update()`: the survivor of the processing point that follows the phases and the plan step -/
theorem C11_history_update_prev (cfg : Cfg) (beh : Beh) (w : World) (k i : Nat) (c c' : Core)
    (hg : w.get i = some c) (ha : c.active ≠ 255) (hh : cfg.history = true)
    (hget : (stepAll cfg beh w k (.update i)).1.get i = some c') :
    c'.prev = survivor {} (processRounds ⟨cfg, beh, i, k⟩ (prelude ⟨cfg, beh, i, k⟩ .preUpdate .update .postUpdate { core := c }).1) := by
  rw [stepAll_update cfg beh k hg ha, onCore_get] at hget
  cases hget
  exact (processRequest_spec ⟨cfg, beh, i, k⟩ (prelude ⟨cfg, beh, i, k⟩ .preUpdate .update .postUpdate { core := c }).1).2.2.1 hh


/-- every delivery of the applied change shows the applied transition as `currentTransition()` -/
theorem allCb_applySurvivor_current (env : Env) (cur : Tr) :
    AllCb (fun _ _ o => o.current = some cur.canon) (applySurvivor env cur ⋙ finishProcessing env cur) :=
  allCb_current (.seq (emits_applySurvivor fun _ _ hm => ⟨hm, rfl⟩) (emits_modifyCore _))

/-- the lifecycle deliveries of a processing point all show the surviving request as `currentTransition()` -/
theorem processRequest_life_current (env : Env) (s : St) :
    ∀ e ∈ (processRequest env s).2, ∀ key vis o, e = Ev.cb key vis o → key.method.isLife = true →
      o.current = some (survivor {} (processRounds env s)).canon := by
  intro e he key vis o hk hl
  obtain ⟨S, _, h2⟩ := processRequest_life env s
  exact allCb_applySurvivor_current env _ S e (h2 e he (by rw [hk]; exact hl)) key vis o hk

/-- **C07 over whole histories — the lifecycle callbacks of a call see the surviving request, payload included.**
    Any world, `immediateChangeWith(d, p)` on an active instance: every `exit` / `enter` / `reenter` delivery of the
    call reports as `currentTransition()` exactly the most recent request of that processing point that no guard
    cancelled — origin, destination and payload. -/
theorem C07_history_lifecycle_sees_survivor (cfg : Cfg) (beh : Beh) (w : World) (k i d p : Nat) (c : Core)
    (hg : w.get i = some c) (hcond : (c.active != 255 && idOk cfg d && cfg.hasPayload) = true) :
    ∀ e ∈ (stepAll cfg beh w k (.immediateChangeWith i d p)).2, ∀ key vis o, e = Ev.cb key vis o → key.method.isLife = true →
      o.current = some (survivor {} (processRounds ⟨cfg, beh, i, k⟩ { core := { c with request := ⟨255, d, some p⟩ } })).canon := by
  intro e he key vis o hk hl
  rw [stepAll_immediateChangeWith cfg beh k hg hcond] at he
  have he := onCore_mem_cb he hk
  rw [immediate_eq] at he
  exact (List.mem_append.mp he).elim (fun he => nomatch hk ▸ eq_of_mem_logEv he) fun he => processRequest_life_current _ _ _ he key vis o hk hl

/-- non-vacuity: instance 1 of a two-instance world; its request to state 2 is redirected by 2's entry guard to 1,
    that redirect is vetoed: the survivor is the request to 2 -/
example :
    let cfg : Cfg := { n := 3, L := 4, cap := 3 }
    let beh : Beh := fun k =>
      if k.method = .entryGuard ∧ k.sid = 2 then [.changeTo 1]
      else if k.method = .entryGuard ∧ k.sid = 1 then [.cancel] else []
    let w := (run cfg beh [.construct 0 false, .construct 1 false]).1
    sig (stepAll cfg beh w 2 (.immediateChangeTo 1 2)).2 = [(.exit, 0), (.enter, 2)] ∧
    actOf ((stepAll cfg beh w 2 (.immediateChangeTo 1 2)).1.get 1) = 2 ∧
    actOf ((stepAll cfg beh w 2 (.immediateChangeTo 1 2)).1.get 0) = 0 := by
  decide +kernel

theorem ownSig_api (i k : Nat) (name : String) (o : ApiObs) : ownSig [Ev.api i k name o] = [] := rfl

/-- **C02 over whole histories — a request is inert until processed**: `changeTo()` / `changeWith()` from
    outside, from any world, run no callback of any kind and leave the active state of every instance as it
    was; when accepted, exactly that request (origin: none, the destination, the payload) is outstanding -/
theorem C02_history_request_inert (cfg : Cfg) (beh : Beh) (w : World) (k i d : Nat) :
    (∀ j, actOf ((stepAll cfg beh w k (.changeTo i d)).1.get j) = actOf (w.get j)) ∧
    ownSig (stepAll cfg beh w k (.changeTo i d)).2 = [] ∧
    (∀ j x, actOf ((stepAll cfg beh w k (.changeWith i d x)).1.get j) = actOf (w.get j)) ∧
    (∀ x, ownSig (stepAll cfg beh w k (.changeWith i d x)).2 = []) ∧
    (∀ c c', w.get i = some c → (c.active != 255 && idOk cfg d) = true →
      (stepAll cfg beh w k (.changeTo i d)).1.get i = some c' → c'.request = ⟨255, d, none⟩) := by
  -- a call that is a `change` writes only the request and emits only its log record
  have inert : ∀ op : Op, op.call = some .change →
      (∀ j, actOf ((stepAll cfg beh w k op).1.get j) = actOf (w.get j)) ∧ ownSig (stepAll cfg beh w k op).2 = [] := by
    intro op hop
    have h := stepAll_call cfg beh w k op
    generalize stepAll cfg beh w k op = r at h
    cases h with
    | idle hb => exact ⟨fun _ => rfl, ownSig_inner [] hb⟩
    | api htag hget hf hb =>
      cases hop.symm.trans htag
      cases hf with
      | change c d p =>
        refine ⟨fun j => ?_, (ownSig_inner _ hb).trans (ownSig_logEv _ _ _)⟩
        by_cases hj : j = op.inst
        · subst hj; rw [World.get_put_same, hget]; rfl
        · rw [World.get_put_ne _ _ _ _ hj]
    | destroyManual hd | destroyAuto hd | copy hd => rw [hd] at hop; cases hop
  refine ⟨(inert (.changeTo i d) rfl).1, (inert (.changeTo i d) rfl).2, fun j x => (inert (.changeWith i d x) rfl).1 j,
    fun x => (inert (.changeWith i d x) rfl).2, ?_⟩
  intro c c' hg hcond hget
  rw [stepAll_changeTo cfg beh k hg hcond, onCore_get] at hget
  cases hget
  rfl

end FFSM2
