import FFSM2.Lemmas.BitArray
import FFSM2.Arrays
/-!
# C20 — Bit sets and fixed arrays behave like their mathematical models

Models: `FFSM2/BitArray.lean` (literal port of `BitArrayT`),
`FFSM2/Arrays.lean` (`StaticArrayT`, `DynamicArrayT`, `IteratorT`).
-/
namespace FFSM2
open BitArray

/-- the mathematical model: a set of integers below the capacity, as a predicate -/
def absStep (cap : Nat) (f : Nat → Bool) : Op → (Nat → Bool)
  | .set i => fun j => decide (j = i) || f j
  | .clear i => fun j => !decide (j = i) && f j
  | .setAll => fun j => decide (j < cap)
  | .clearAll => fun _ => false
  | .andAssign o => fun j => f j && bit o j

def absRun (cap : Nat) (ops : List Op) : Nat → Bool := ops.foldl (absStep cap) (fun _ => false)

/-- in-contract operations: indices below the capacity (`FFSM2_ASSERT(index < CAPACITY)`), and-assign
    operands are bit arrays of the same capacity -/
def OpOk (cap : Nat) : Op → Prop
  | .set i => i < cap
  | .clear i => i < cap
  | .setAll => True
  | .clearAll => True
  | .andAssign o => Inv cap o

theorem step_refines {cap : Nat} {units : List Nat} {f : Nat → Bool} (h : Inv cap units)
    (hf : ∀ j, bit units j = f j) (op : Op) (hop : OpOk cap op) :
    Inv cap (step cap units op) ∧ ∀ j, bit (step cap units op) j = absStep cap f op j := by
  have hlen : ∀ {i}, i < cap → i / 8 < units.length := fun hi => h.length ▸ unit_index_lt hi
  cases op <;> simp only [step, absStep]
  · exact ⟨inv_set h hop, fun j => by rw [bit_set (hlen hop), hf]⟩
  · exact ⟨inv_clear h hop, fun j => by rw [bit_clear (hlen hop), hf]⟩
  · exact ⟨inv_setAll h, fun j => bit_setAll h.length j⟩
  · exact ⟨inv_clearAll h, bit_clearAll units⟩
  · exact ⟨inv_andAssign h hop, fun j => by rw [bit_andAssign, hf]⟩

/-- **C20 refinement**: for every capacity and every in-contract operation sequence from a fresh
    bit array, `get` answers exactly like the set-of-integers model, `empty` is true exactly when
    the model set is empty, and the representation invariant (length, byte-ness, clear padding
    bits) holds.  (Needs the F4 repair of `set()`.) -/
theorem C20_bitarray_refines (cap : Nat) (ops : List Op) (hok : ∀ op ∈ ops, OpOk cap op) :
    Inv cap (run cap ops) ∧
    (∀ j, get (run cap ops) j = absRun cap ops j) ∧
    (empty (run cap ops) = true ↔ ∀ j, j < cap → absRun cap ops j = false) := by
  obtain ⟨h1, h2⟩ := foldl_sim (R := fun units (f : Nat → Bool) => Inv cap units ∧ ∀ j, bit units j = f j)
    (fun op h => step_refines h.1 h.2 op) ops ⟨inv_init cap, bit_init cap⟩ hok
  exact ⟨h1, fun j => (get_eq_bit _ j).trans (h2 j), (empty_iff h1).trans (forall_congr' fun j => by rw [h2 j]; rfl)⟩

/-- **independence**: `set(i)` / `clear(i)` never disturb another index -/
theorem C20_bitarray_independent {cap : Nat} {units : List Nat} (h : Inv cap units) {i j : Nat}
    (hi : i < cap) (hij : j ≠ i) :
    get (BitArray.set units i) j = get units j ∧ get (BitArray.clear units i) j = get units j := by
  have hlen : i / 8 < units.length := h.length ▸ unit_index_lt hi
  simp only [get_eq_bit]
  rw [bit_set hlen, bit_clear hlen]
  simp [hij]

/-- `set(i)` then `get(i)` is true, `clear(i)` then `get(i)` is false -/
theorem C20_bitarray_own_index {cap : Nat} {units : List Nat} (h : Inv cap units) {i : Nat}
    (hi : i < cap) :
    get (BitArray.set units i) i = true ∧ get (BitArray.clear units i) i = false := by
  have hlen : i / 8 < units.length := h.length ▸ unit_index_lt hi
  simp only [get_eq_bit]
  rw [bit_set hlen, bit_clear hlen]
  simp

/-- non-vacuity and the F4 witness: capacity 12, set-all then clear every index → empty;
    without masking the padding (the pre-fix code) the same sequence is not empty. -/
example : empty (run 12 (Op.setAll :: (List.range 12).map Op.clear)) = true := by decide +kernel
example : empty (((List.range 12).map Op.clear).foldl (step 12) [255, 255]) = false := by decide +kernel

/-- every unit index computed by get/set/clear is inside the storage (used by C18) -/
theorem C20_unit_index_in_range {cap i : Nat} (hi : i < cap) : i / 8 < unitCount cap := unit_index_lt hi

/-! ## Fixed and growable arrays -/
open Arrays

/-- `a[i] = v` then `a[j]`: the value last stored at `j` -/
theorem C20_static_get_set {α : Type} (items : List α) (dflt v : α) (i j : Nat) (hi : i < items.length) :
    Static.get (Static.put items i v) dflt j = if j = i then v else Static.get items dflt j := by
  unfold Static.get Static.put
  rw [getD_set]
  by_cases h : j = i
  · rw [if_pos h, if_pos ⟨h.symm, hi⟩]
  · rw [if_neg h, if_neg (fun e => h e.1.symm)]

/-- `fill(v)` / `clear()` overwrite every element and keep the element count -/
theorem C20_fill_clear {α : Type} (items : List α) (dflt v : α) :
    (Static.fill items v).length = items.length ∧
    ∀ j, j < items.length → Static.get (Static.fill items v) dflt j = v := by
  unfold Static.fill Static.get
  exact ⟨List.length_map _, fun j hj => by rw [getD_map_const, if_pos hj]⟩

/-- after `clear()`, `empty()` is true -/
theorem C20_clear_empty {α : Type} [BEq α] [ReflBEq α] (items : List α) (filler : α) :
    Static.empty (Static.clear items filler) filler = true := by
  unfold Static.empty Static.clear Static.fill
  simp [List.all_eq_true]

theorem iterLoop_spec {α : Type} (items : List α) (dflt : α) (limit : Nat) :
    ∀ (fuel cursor : Nat), cursor + fuel = limit →
      Static.iterLoop items dflt limit fuel cursor
        = (List.range' cursor fuel).map (fun i => (i, items.getD i dflt)) := by
  intro fuel
  induction fuel with
  | zero => intro cursor _; simp [Static.iterLoop]
  | succ fuel ih =>
    intro cursor h
    have hne : (cursor != limit) = true := by simp; omega
    simp only [Static.iterLoop, hne, if_true, List.range'_succ, List.map_cons]
    rw [ih (cursor + 1) (by omega)]

/-- iteration visits each element exactly once, in index order -/
theorem C20_iter_in_order {α : Type} (items : List α) (dflt : α) :
    Static.iterate items dflt = (List.range items.length).map (fun i => (i, items.getD i dflt)) := by
  unfold Static.iterate
  rw [iterLoop_spec items dflt items.length items.length 0 (by omega), List.range_eq_range']

/-- well-formedness of the growable array: count within capacity, storage of `cap` slots -/
structure DynInv {α : Type} (a : Dynamic.Arr α) : Prop where
  len : a.items.length = a.cap
  cnt : a.count ≤ a.cap

/-- abstraction: the first `count` slots -/
def dynAbs {α : Type} (a : Dynamic.Arr α) : List α := a.items.take a.count

/-- **growable array**: an in-contract `emplace` appends at the end (insertion order preserved),
    bumps the count by one and returns the old count as index -/
theorem C20_dynamic_order_count {α : Type} (a : Dynamic.Arr α) (v : α) (h : DynInv a)
    (hroom : a.count < a.cap) :
    dynAbs (Dynamic.emplace a v).1 = dynAbs a ++ [v] ∧
    (Dynamic.emplace a v).1.count = a.count + 1 ∧ (Dynamic.emplace a v).2 = a.count ∧
    DynInv (Dynamic.emplace a v).1 := by
  unfold dynAbs Dynamic.emplace
  refine ⟨?_, rfl, rfl, ⟨by simp [h.len], by simp; omega⟩⟩
  simp only
  have hc : a.count < a.items.length := by rw [h.len]; exact hroom
  rw [List.take_add_one, List.take_set_of_le (Nat.le_refl _)]
  simp [hc]

/-- **batch append** (`a += other`): with room for all of them, every item of `other` is appended, in
    order, the count grows by their number — up to and including exactly filling the array -/
theorem C20_dynamic_appendAll {α : Type} : ∀ (vs : List α) (a : Dynamic.Arr α), DynInv a → a.count + vs.length ≤ a.cap →
    dynAbs (Dynamic.appendAll a vs) = dynAbs a ++ vs ∧ (Dynamic.appendAll a vs).count = a.count + vs.length ∧
    DynInv (Dynamic.appendAll a vs)
  | [], a, h, _ => ⟨by simp [Dynamic.appendAll], by simp [Dynamic.appendAll], h⟩
  | v :: vs, a, h, hroom => by
    rw [List.length_cons] at hroom
    obtain ⟨e1, e2, _, e4⟩ := C20_dynamic_order_count a v h (by omega)
    obtain ⟨i1, i2, i3⟩ := C20_dynamic_appendAll vs (Dynamic.emplace a v).1 e4
      (by rw [e2]; show _ ≤ a.cap; omega)
    show dynAbs (Dynamic.appendAll (Dynamic.emplace a v).1 vs) = _ ∧
      (Dynamic.appendAll (Dynamic.emplace a v).1 vs).count = _ ∧ DynInv (Dynamic.appendAll (Dynamic.emplace a v).1 vs)
    refine ⟨by rw [i1, e1, List.append_assoc]; rfl, by rw [i2, e2, List.length_cons]; omega, i3⟩

/-- iteration over the growable array yields exactly the inserted items in order -/
theorem C20_dynamic_iter {α : Type} (a : Dynamic.Arr α) (dflt : α) (h : DynInv a) :
    (Dynamic.iterate a dflt).map Prod.snd = dynAbs a := by
  unfold Dynamic.iterate dynAbs
  rw [iterLoop_spec a.items dflt a.count a.count 0 (by omega)]
  have hc : a.count ≤ a.items.length := by rw [h.len]; exact h.cnt
  apply List.ext_getElem
  · simp; omega
  · intro i h1 h2
    simp at h1 h2
    simp [List.getD_eq_getElem?_getD, List.getElem?_eq_getElem (show i < a.items.length by omega)]

/-- `clear()` empties it; capacity is available again -/
theorem C20_dynamic_clear {α : Type} (a : Dynamic.Arr α) (h : DynInv a) :
    dynAbs (Dynamic.clear a) = [] ∧ Dynamic.empty (Dynamic.clear a) = true ∧ DynInv (Dynamic.clear a) := by
  unfold dynAbs Dynamic.clear Dynamic.empty
  exact ⟨by simp, by simp, ⟨h.len, Nat.zero_le _⟩⟩

end FFSM2
