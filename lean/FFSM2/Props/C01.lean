import FFSM2.Props.C02
/-!
# C01 — Exactly one active state; enter/exit strictly paired over the whole lifetime

`sig` is the lifecycle signature of a trace: which state's own `enter` / `exit` / `reenter` ran, in
order (deliveries to states that do not define the callback included).  `LifePath a sg a'` says that
`sg` is a correctly paired lifecycle starting with active state `a` (255 = inactive) and ending with `a'`.
-/
namespace FFSM2
open Step

inductive LifePath : Nat → List (Method × Nat) → Nat → Prop
  | nil (a : Nat) : LifePath a [] a
  | reenter {a a' : Nat} {rest} : a ≠ 255 → LifePath a rest a' → LifePath a ((.reenter, a) :: rest) a'
  | change {a d a' : Nat} {rest} : a ≠ 255 → d ≠ 255 → LifePath d rest a' →
      LifePath a ((.exit, a) :: (.enter, d) :: rest) a'
  | activate {d a' : Nat} {rest} : d ≠ 255 → LifePath d rest a' →
      LifePath 255 ((.enter, 255) :: (.enter, d) :: rest) a'
  | deactivate {a a' : Nat} {rest} : a ≠ 255 → LifePath 255 rest a' →
      LifePath a ((.exit, a) :: (.exit, 255) :: rest) a'

theorem LifePath.append {a b c : Nat} {s1 s2 : List (Method × Nat)} (h1 : LifePath a s1 b) (h2 : LifePath b s2 c) :
    LifePath a (s1 ++ s2) c := by
  induction h1 with
  | nil a => simpa using h2
  | reenter ha _ ih => exact LifePath.reenter ha (ih h2)
  | change ha hd _ ih => exact LifePath.change ha hd (ih h2)
  | activate hd _ ih => exact LifePath.activate hd (ih h2)
  | deactivate ha _ ih => exact LifePath.deactivate ha (ih h2)

theorem LifePath.changeTo {a d : Nat} (ha : a ≠ 255) (hd : d ≠ 255) :
    LifePath a (if d != a then [(.exit, a), (.enter, d)] else [(.reenter, a)]) d := by
  split
  · exact .change ha hd (.nil _)
  · rename_i h
    rw [show d = a by simpa using h]
    exact .reenter ha (.nil _)

/-- **processing** keeps the pairing: nothing, `reenter` of the active state, or `exit(old); enter(new)` -/
theorem C01_processRequest (env : Env) (s : St) (ha : s.core.active ≠ 255) :
    LifePath s.core.active (sig (processRequest env s).2) (processRequest env s).1.core.active ∧
    (processRequest env s).1.core.active ≠ 255 := by
  have h := processRequest_spec env s
  cases hv : (survivor {} (processRounds env s)).valid
  · obtain ⟨h1, h2⟩ := h.2.2.2.1 hv
    rw [h1, h2]; exact ⟨LifePath.nil _, ha⟩
  · obtain ⟨h1, h2⟩ := h.2.2.2.2 hv
    have hd : (survivor {} (processRounds env s)).dest ≠ 255 := by simpa [Tr.valid] using hv
    rw [h1, h2]
    exact ⟨.changeTo ha hd, hd⟩

/-- **update / react**: the phases and the plan step run no lifecycle callback; the call's lifecycle
    is that of its processing point -/
theorem C01_cycle (env : Env) (pre mid post : Method)
    (hpre : pre.isLife = false) (hmid : mid.isLife = false) (hpost : post.isLife = false)
    (s : St) (ha : s.core.active ≠ 255) :
    LifePath s.core.active (sig (cycle env pre mid post s).2) (cycle env pre mid post s).1.core.active ∧
    (cycle env pre mid post s).1.core.active ≠ 255 := by
  obtain ⟨h1, h2, h3⟩ := C02_cycle_outcome env pre mid post hpre hmid hpost s
  rw [h2, h3, ← h1]
  exact C01_processRequest env _ (h1 ▸ ha)

/-- `enterSurvivor`: the tail of activation enters the root, then exactly one state -/
theorem enterSurvivor_spec (env : Env) (cur : Tr) (s : St) :
    (enterSurvivor env cur s).1.core.active = (if cur.valid then cur.dest else 0) ∧
    sig (enterSurvivor env cur s).2 = [(.enter, 255), (.enter, if cur.valid then cur.dest else 0)] := by
  unfold enterSurvivor
  simp only [Step.seq, modifyCore, List.nil_append, List.append_nil]
  exact ⟨(deepEnter_spec env cur _).1, (deepEnter_spec env cur _).2.2⟩

/-- **activation** (constructor, or `enter()` under manual activation): from the inactive machine,
    root `enter`, then `enter` of exactly one state — the surviving redirect's destination or state 0 —
    which is the active state afterwards; the guard rounds before it run no lifecycle callback -/
theorem C01_initialEnter (env : Env) (s : St) :
    ∃ d, (initialEnter env s).1.core.active = d ∧ sig (initialEnter env s).2 = [(.enter, 255), (.enter, d)] ∧
      (d = 0 ∨ ∃ r ∈ substRounds (entryGuardRound env) (substFuel env.cfg.L) {}
          (entryGuardRound env {} {} { s with core := (applyRequest {} 0 s.core).1 }).1, r.2 = false ∧ d = r.1.dest) := by
  unfold initialEnter
  simp only
  generalize hs0 : ({ s with core := (applyRequest {} 0 s.core).1 } : St) = s0
  generalize hr0 : entryGuardRound env {} {} s0 = r0
  have hq0 : sig r0.2 = [] := by rw [← hr0]; exact sig_of_noLife (noLife_entryGuardRound env {} {}) s0
  have hq := substLoop_sig (entryGuardRound env) (stable_entryGuardRound env) (noLife_entryGuardRound env)
    (substFuel env.cfg.L) {} r0.1
  have hcur := substLoop_current (entryGuardRound env) (substFuel env.cfg.L) {} r0.1
  generalize hS : substLoop (entryGuardRound env) (substFuel env.cfg.L) {} r0.1 = S at hq hcur
  obtain ⟨e1, e2⟩ := enterSurvivor_spec env S.1.2 S.1.1
  refine ⟨_, e1, ?_, ?_⟩
  · simp only [sig_append, hq0, hq, List.nil_append]; exact e2
  · cases hv : S.1.2.valid
    · exact .inl rfl
    · rw [hcur] at hv ⊢
      obtain ⟨r, hr, hr2, e⟩ := survivor_of_valid hv
      exact .inr ⟨r, hr, hr2, (if_pos rfl).trans (congrArg Tr.dest e)⟩

/-- **deactivation** (`exit()` / destruction): `exit` of the active state, then of the root; the
    machine is inactive afterwards — no `enter` is left unpaired -/
theorem C01_finalExit (env : Env) (s : St) :
    (finalExit env s).1.core.active = 255 ∧ sig (finalExit env s).2 = [(.exit, s.core.active), (.exit, 255)] := by
  rw [finalExit_eq, seq_snd, sig_append, (deepExit_spec env {} s).2.2]
  exact ⟨(wipe_registry _ _).1, rfl⟩

/-- replay: `reenter` only for the state that is active, otherwise `exit(old); enter(d)` -/
theorem C01_replayTransition (env : Env) (d : Nat) (hd : d ≠ 255) (s : St) (ha : s.core.active ≠ 255) :
    LifePath s.core.active (sig (replayTransition env d s).2) d ∧ (replayTransition env d s).1.core.active = d :=
  ⟨(replayTransition_spec env hd s).2.2 ▸ .changeTo ha hd, (replayTransition_spec env hd s).1⟩

/-- **what user code observes is the registry**: at every API boundary `activeStateId()` is the
    `active` field, `isActive(j)` is one-hot at it, an inactive machine reports no active state -/
theorem C01_active_observation (cfg : Cfg) (c : Core) (hc : c.active < cfg.n ∨ c.active = 255) (hn : cfg.n ≤ 255) :
    (apiObs cfg c).active = c.active ∧
    (∀ j, j < cfg.n → (apiObs cfg c).isActive.getD j false = decide (c.active = j)) ∧
    (c.active = 255 → ∀ j, (apiObs cfg c).isActive.getD j false = false) := by
  refine ⟨rfl, fun j hj => ?_, fun h j => ?_⟩
  · simp [apiObs, List.getD_eq_getElem?_getD, hj, BEq.beq]
  · simp only [apiObs, List.getD_eq_getElem?_getD]
    by_cases hj : j < cfg.n
    · simp [hj, h]; omega
    · simp [hj]

/-- non-vacuity: activation, a vetoed request, a surviving one, `reenter`, deactivation -/
example :
    let cfg : Cfg := { n := 3, L := 2, cap := 1, manual := true }
    let beh : Beh := fun k => if k.method = .exitGuard ∧ k.op = 2 then [.cancel] else []
    let r := run cfg beh [.construct 0 false, .enter 0, .immediateChangeTo 0 1, .immediateChangeTo 0 2,
                          .immediateChangeTo 0 2, .exit 0]
    sig r.2 = [(.enter, 255), (.enter, 0), (.exit, 0), (.enter, 2), (.reenter, 2), (.exit, 2), (.exit, 255)] ∧
    LifePath 255 (sig r.2) 255 := by
  intro cfg beh r
  have h : sig r.2 = [(.enter, 255), (.enter, 0), (.exit, 0), (.enter, 2), (.reenter, 2), (.exit, 2), (.exit, 255)] := by
    decide +kernel
  exact ⟨h, h ▸ .activate (by decide) (.change (by decide) (by decide) (.reenter (by decide) (.deactivate (by decide) (.nil _))))⟩

end FFSM2
