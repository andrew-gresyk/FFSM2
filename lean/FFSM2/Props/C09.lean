import FFSM2.Props.C08
/-!
# C09 — planSucceeded / planFailed are delivered exactly when warranted

The plan step of a cycle (`C_::deepUpdatePlans` + `FullControlT::updatePlan` + `clearRegionStatuses`).
`cycleStatus s` is the status the step acts on: what the phase callbacks of this cycle reported
(`subStatus`, Q6) combined with the active state's outstanding failure / success bit.
-/
namespace FFSM2
open Step

/-- plan-outcome deliveries of a trace, in order -/
def outcomes (es : List Ev) : List Method :=
  (ownSig es).filterMap (fun p => if p.1 == .planFailed || p.1 == .planSucceeded then some p.1 else none)

theorem outcomes_deliver (env : Env) (m : Method) (h : m = .planFailed ∨ m = .planSucceeded) (s : St) :
    outcomes (deliver env m 255 {} {} s).2 = [m] := by
  unfold outcomes
  rw [ownSig_deliver]
  rcases h with rfl | rfl <;> rfl

theorem firePlan_no_cb (env : Env) (tasks : List Task) (s : St) (clr : List Nat) :
    ownSig (firePlan env tasks s clr).2 = [] :=
  ownSig_eq_nil_of_noCb ((emits_firePlan tasks s clr).silent methodPred_isCb)

theorem planOutcome_spec (env : Env) (st : Status) (m : Method) (h : m = .planFailed ∨ m = .planSucceeded) (s : St) :
    outcomes (planOutcome env st m s).2 = [m] ∧ (planOutcome env st m s).1.core.plan = [] := by
  unfold planOutcome
  rw [seq_modifyCore]
  exact ⟨outcomes_deliver env m h _, rfl⟩

/-- **the four cases of the plan step**, for every configuration, behaviour and state:
    * nothing outstanding, or no task ever appended since activation/load ⇒ no callback, plan untouched;
    * failure outstanding ⇒ exactly `planFailed`, no task fires, plan empty afterwards;
    * success outstanding, plan non-empty ⇒ no outcome callback (tasks may fire);
    * success outstanding, plan empty ⇒ exactly `planSucceeded`, plan empty afterwards. -/
theorem C09_planStep_cases (env : Env) (s : St) :
    ((cycleStatus s = .none ∨ s.core.planExists = false) →
        outcomes (planStep env s).2 = [] ∧ (planStep env s).1.core.plan = s.core.plan ∧
        (planStep env s).1.core.request = s.core.request) ∧
    (cycleStatus s = .failure → s.core.planExists = true →
        outcomes (planStep env s).2 = [.planFailed] ∧ (planStep env s).1.core.plan = []) ∧
    (cycleStatus s = .success → s.core.planExists = true → s.core.plan ≠ [] →
        outcomes (planStep env s).2 = []) ∧
    (cycleStatus s = .success → s.core.planExists = true → s.core.plan = [] →
        outcomes (planStep env s).2 = [.planSucceeded] ∧ (planStep env s).1.core.plan = []) := by
  rw [planStep_eq, seq_modifyCore]
  dsimp only
  refine ⟨fun h => ?_, fun hf hp => ?_, fun hs hp hne => ?_, fun hs hp hnil => ?_⟩
  · rw [if_neg (by rcases h with h | h <;> simp [h])]
    exact ⟨rfl, rfl, rfl⟩
  · rw [hf, hp]
    exact planOutcome_spec env _ _ (.inl rfl) s
  · rw [hs, hp, show (!s.core.plan.isEmpty) = true by cases hpl : s.core.plan <;> first | exact absurd hpl hne | rfl]
    exact congrArg _ (firePlan_no_cb env _ _ _)
  · rw [hs, hp, hnil]
    exact planOutcome_spec env _ _ (.inr rfl) s

theorem planStep_outcomes (env : Env) (s : St) :
    outcomes (planStep env s).2 = [] ∨
    (outcomes (planStep env s).2 = [.planFailed] ∧ cycleStatus s = .failure) ∨
    (outcomes (planStep env s).2 = [.planSucceeded] ∧ cycleStatus s = .success ∧ s.core.plan = []) := by
  have h := C09_planStep_cases env s
  cases hp : s.core.planExists
  · exact .inl (h.1 (.inr hp)).1
  · cases hst : cycleStatus s
    · exact .inl (h.1 (.inl hst)).1
    · by_cases hpl : s.core.plan = []
      · exact .inr (.inr ⟨(h.2.2.2 hst hp hpl).1, rfl, hpl⟩)
      · exact .inl (h.2.2.1 hst hp hpl)
    · exact .inr (.inl ⟨(h.2.1 hst hp).1, rfl⟩)

/-- **at most one of them per cycle** -/
theorem C09_exclusive (env : Env) (s : St) : (outcomes (planStep env s).2).length ≤ 1 := by
  rcases planStep_outcomes env s with h | ⟨h, _⟩ | ⟨h, _⟩ <;> rw [h] <;> decide

/-- **never on a machine to which no task has been added since activation / load**: `planExists` is
    false in the initial core, after `finalExit` and after `load`; only an append sets it -/
theorem C09_never_without_plan (cfg : Cfg) (lg : Bool) :
    (initCore cfg lg).planExists = false ∧ ∀ c, (planDataClear c).planExists = false := ⟨rfl, fun _ => rfl⟩

/-- the status the step acts on is failure whenever the active state's failure report is outstanding,
    so with a plan in existence `planFailed` is delivered in that same cycle -/
theorem C09_failed_if (env : Env) (s : St) (hf : getBit s.core.fail s.core.active = true) (hp : s.core.planExists = true) :
    outcomes (planStep env s).2 = [.planFailed] := by
  have hst : cycleStatus s = .failure := by
    unfold cycleStatus stateStatus
    simp only [hf, if_true]
    cases s.core.subStatus <;> rfl
  exact ((C09_planStep_cases env s).2.1 hst hp).1

/-- `planFailed` only if a failure is outstanding: reported by this cycle's callbacks or by the
    active state's failure bit; `planSucceeded` only if success is outstanding and no task remains -/
theorem C09_only_if (env : Env) (s : St) :
    (Method.planFailed ∈ outcomes (planStep env s).2 →
        s.core.subStatus = .failure ∨ getBit s.core.fail s.core.active = true) ∧
    (Method.planSucceeded ∈ outcomes (planStep env s).2 → cycleStatus s = .success ∧ s.core.plan = []) := by
  refine ⟨fun hm => ?_, fun hm => ?_⟩ <;> rcases planStep_outcomes env s with h | ⟨h, hst⟩ | ⟨h, hst⟩ <;> rw [h] at hm
  · cases hm
  · unfold cycleStatus stateStatus at hst
    by_cases hb : getBit s.core.fail s.core.active = true
    · exact .inr hb
    · left
      simp only [hb, Bool.false_eq_true, if_false] at hst
      cases hs : s.core.subStatus <;> rw [hs] at hst <;> first | rfl | (split at hst <;> simp [Status.or, Status.rank] at hst)
  · simp at hm
  · cases hm
  · simp at hm
  · exact hst

end FFSM2
