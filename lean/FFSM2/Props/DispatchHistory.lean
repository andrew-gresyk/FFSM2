import FFSM2.Props.OutcomeHistory
import FFSM2.Props.C04
/-!
# C14 over whole histories: a request to id `k` activates exactly the `k`-th state

`C14_history_dispatch` — any configuration with `N` states (`1 ≤ N ≤ 255`), any world, any callback behaviour whose
*guards* stay passive (they neither cancel nor redirect; every other callback may do what it likes): for every state id
`d < N`, `immediateChangeTo(d)` on an active instance runs `exit(old)` then `enter(d)` — `reenter(d)` alone if `d` is
already active — and nothing else of the lifecycle, and the instance ends with state `d` active.  For every `d` and
every `N`, whatever world the call is made in.
-/
namespace FFSM2
open Step Ancestors

/-- guards that neither cancel nor redirect (nor do anything else) -/
def GuardsIdle (beh : Beh) : Prop := ∀ key : Key, key.method.isGuard = true → beh key = []

theorem inert_composes : Composes fun s _ s' => s'.core = s.core ∧ s'.cancelled = s.cancelled :=
  ⟨fun _ => ⟨rfl, rfl⟩, fun h1 h2 => ⟨h2.1.trans h1.1, h2.2.trans h1.2⟩⟩

/-- a delivery to passive guards leaves the core and the veto flag alone -/
theorem inert_deliver (env : Env) (hb : GuardsIdle env.beh) (m : Method) (hm : m.isGuard = true) (sid : Nat) (cur pend : Tr) (s : St) :
    (deliver env m sid cur pend s).1.core = s.core ∧ (deliver env m sid cur pend s).1.cancelled = s.cancelled :=
  sat_deliver inert_composes (fun _ => ⟨rfl, rfl⟩) (fun _ _ => ⟨rfl, rfl⟩)
    (fun _ _ a _ hmem _ => by rw [hb _ hm] at hmem; cases hmem) s

theorem modify_seq_seq (m : St → St) (f g : Step) (s : St) : (Step.modify m ⋙ f ⋙ g) s = (f ⋙ g) (m s) := by
  simp only [Step.seq, Step.modify, List.nil_append]

/-- with passive guards a round changes nothing and is not vetoed -/
theorem guardRound_idle (env : Env) (hb : GuardsIdle env.beh) (cur pend : Tr) (s : St) :
    (guardRound env cur pend s).1.core = s.core ∧ (guardRound env cur pend s).1.cancelled = false := by
  -- the reset moved into the state first: across `modify _ ⋙ _ ⋙ _` the unifier unfolds `deliver`
  rw [guardRound_eq, modify_seq_seq]
  exact Sat.seq inert_composes (sat_reading _ fun a => inert_deliver env hb .exitGuard rfl a cur pend)
    (sat_ite _ (sat_skip inert_composes) (sat_reading _ fun a => inert_deliver env hb .entryGuard rfl a cur pend)) _

/-- with passive guards and a valid outstanding request, exactly one round is evaluated and it is accepted -/
theorem processRounds_idle (env : Env) (hb : GuardsIdle env.beh) (hL : 1 ≤ env.cfg.L) (hL2 : env.cfg.L ≤ 255) (s : St)
    (hv : s.core.request.valid = true) (hne : ({} : Tr).ne ⟨255, s.core.request.dest, none⟩ = true) :
    processRounds env s = [(s.core.request, false)] := by
  have hf : substFuel env.cfg.L = (env.cfg.L - 1) + 1 := by rw [(C04_loop_form _ hL2).1]; omega
  have hg := guardRound_idle env hb {} s.core.request (takeRequest s)
  unfold processRounds
  rw [if_pos hv, hf, substRounds_succ, if_pos hv, if_pos hne, hg.2]
  refine congrArg _ ?_
  cases env.cfg.L - 1 with
  | zero => rfl
  | succ k => rw [substRounds_succ, hg.1]; rfl

/-- **C14 over whole histories — dispatch reaches exactly the requested state**, for every `d`, every `N`, any world -/
theorem C14_history_dispatch (cfg : Cfg) (hwf : cfg.WF) (hL : cfg.L ≤ 255) (beh : Beh) (hb : GuardsIdle beh)
    (w : World) (k i d : Nat) (c : Core) (hg : w.get i = some c) (ha : c.active ≠ 255) (hd : d < cfg.n) :
    actOf ((stepAll cfg beh w k (.immediateChangeTo i d)).1.get i) = d ∧
    sig (stepAll cfg beh w k (.immediateChangeTo i d)).2 =
      if d != c.active then [(Method.exit, c.active), (Method.enter, d)] else [(Method.reenter, c.active)] := by
  have hcond : (c.active != 255 && idOk cfg d) = true := by simp [ha, idOk, hd]
  have hd255 : d ≠ 255 := id_ne_255 hwf hd
  have ho := C02_history_immediate_outcome cfg beh w k i d c hg hcond
  simp only at ho
  have hr : processRounds ⟨cfg, beh, i, k⟩ { core := { c with request := ⟨255, d, none⟩ } } = [(⟨255, d, none⟩, false)] :=
    processRounds_idle ⟨cfg, beh, i, k⟩ hb hwf.L_pos hL _ (by simp [Tr.valid, hd255]) (by simp [Tr.ne]; exact fun h => hd255 h.symm)
  unfold OutcomeOf at ho
  rw [hr] at ho
  simp only [survivor, List.foldl_cons, List.foldl_nil, Bool.false_eq_true, if_false] at ho
  exact ho.2 (by simp [Tr.valid, hd255])

/-- non-vacuity: a 7-state machine; requesting state 5 from the initial state enters state 5 and nothing else -/
example :
    let cfg : Cfg := { n := 7, L := 3, cap := 2 }
    let beh : Beh := fun k => if k.method = .enter then [.planAppend 0 1 none] else []
    let w := (run cfg beh [.construct 0 false]).1
    actOf ((stepAll cfg beh w 1 (.immediateChangeTo 0 5)).1.get 0) = 5 ∧
    sig (stepAll cfg beh w 1 (.immediateChangeTo 0 5)).2 = [(.exit, 0), (.enter, 5)] := by
  decide +kernel

end FFSM2
