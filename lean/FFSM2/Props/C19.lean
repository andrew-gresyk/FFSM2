import FFSM2.Props.C16
/-!
# C19 — Feature switches are orthogonal; the shipped single header equals the sources   (partial)

"Compiles under every switch combination / standard / compiler" and "the shipped header is the
amalgamation of the sources" are facts about files and compilers: they are *executed* by the check
(256+1 combinations, `tools/join.py` byte-compare) and cannot be theorems about a model.  What the
model can carry is feature neutrality; these theorems state it for the switches that have model
counterparts.  `STRUCTURE_REPORT`, `DEBUG_STATE_TYPE` and `DISABLE_TYPEINDEX` add no behaviour to the
library (a `TYPE` member only) and have nothing to model; they are covered by the executed
cross-configuration trace equality.
-/
namespace FFSM2
open Step

/-- **logging**: a program that never looks at log records behaves identically with the log interface
    compiled in and a logger attached, compiled in without a logger, or compiled out (= C16) -/
theorem C19_neutral_logging (env : Env) : Blind (update env) ∧ Blind (react env) ∧ Blind (initialEnter env) ∧ Blind (finalExit env) :=
  ⟨(C16_noninterference env 0 []).1, (C16_noninterference env 0 []).2.1, (C16_noninterference env 0 []).2.2.2.2.1,
   (C16_noninterference env 0 []).2.2.2.2.2.1⟩

/-- **plans**: with the feature enabled but no task ever appended and no succeed/fail ever reported
    (nothing outstanding, `planExists = false`), the plan step is a no-op: it delivers nothing and
    leaves plan and request alone — so the cycle is `phases ⋙ processRequest`, exactly what a build
    without the feature runs -/
theorem C19_neutral_plans (env : Env) (s : St) (hp : s.core.planExists = false) :
    (planStep env s).2 = [] ∧ (planStep env s).1.core.request = s.core.request ∧
    (planStep env s).1.core.plan = s.core.plan ∧ (planStep env s).1.core.active = s.core.active := by
  rw [planStep_skip env s (by rw [hp, Bool.and_false])]
  exact ⟨rfl, rfl, rfl, rfl⟩

/-- **transition history**: nothing in request processing reads `previousTransition`: the outcome
    (`C02_outcome`) is a function of the rounds and the registry only; enabling the feature only adds
    the final store -/
theorem C19_neutral_history (env : Env) (cur : Tr) (s : St) :
    (finishProcessing env cur s).1.core.active = s.core.active ∧
    (finishProcessing env cur s).1.core.request = s.core.request ∧
    (finishProcessing env cur s).1.core.plan = s.core.plan ∧
    (finishProcessing env cur s).2 = [] := ⟨rfl, rfl, rfl, rfl⟩

/-- **serialization**: `save` is a pure function returning bytes; a program that never calls
    `save`/`load` cannot observe the feature -/
theorem C19_neutral_serialization (cfg : Cfg) (beh : Beh) (w : World) (k i : Nat) (c : Core) (hw : w.get i = some c)
    (hs : cfg.serialization = true) (ha : cfg.manual = true ∨ c.active ≠ 255) :
    (step cfg beh w k (.save i)).1 = w := by
  have : (cfg.manual || c.active != 255) = true := by
    rcases ha with h | h
    · simp [h]
    · simp [h]
  simp only [step_eq, Op.inst, hw, effect, hs, this, Bool.and_self, reduceIte]
  rfl

end FFSM2
