import FFSM2.Lemmas.Steps
import FFSM2.Lemmas.Effect
/-!
# C11 — Transition history mirrors what happened; replay keeps replicas in sync
-/
namespace FFSM2
open Step

/-- **history = applied transition**: after a processing step `previousTransition()` is the request
    that survived (origin, destination and payload are fields of the same `Tr` value), its
    destination is the now-active state, and it is empty iff the step applied none -/
theorem C11_history_is_applied (env : Env) (hh : env.cfg.history = true) (s : St) :
    let cur := survivor {} (processRounds env s)
    (processRequest env s).1.core.prev = cur ∧
    (cur.valid = true → (processRequest env s).1.core.active = cur.dest) ∧
    (cur.valid = false → (processRequest env s).1.core.active = s.core.active) := by
  intro cur
  have h := processRequest_spec env s
  exact ⟨h.2.2.1 hh, fun hv => (h.2.2.2.2 hv).1, fun hv => (h.2.2.2.1 hv).1⟩

/-- `replayTransition(d)` on any core: the replica ends in state `d`, records `d` as its history and
    consults no guard (its guards may be arbitrarily hostile: they are never delivered) -/
theorem C11_replay_spec (env : Env) (d : Nat) (hd : d ≠ 255) (s : St) :
    (replayTransition env d s).1.core.active = d ∧
    (replayTransition env d s).1.core.requested = 255 ∧
    (replayTransition env d s).2.filter Ev.isGuard = [] :=
  ⟨(replayTransition_spec env hd s).1, (replayTransition_spec env hd s).2.1, noGuard_replayTransition env d s⟩

/-- `replayEnter(d)`: same for activation -/
theorem C11_replayEnter_spec (env : Env) (d : Nat) (hd : d ≠ 255) (s : St) :
    (replayEnter env d s).1.core.active = d ∧ (replayEnter env d s).2.filter Ev.isGuard = [] := by
  refine ⟨?_, noGuard_replayEnter env d s⟩
  unfold replayEnter
  simp only [Step.seq, modifyCore, applyRequest_fresh hd]
  exact (deepEnter_spec env {} _).1

/-- **replica in sync**: feed the authority's `previousTransition().destination` after a processing
    step that applied a transition to `replayTransition` on ANY replica (any state, any behaviour):
    both end in the same active state -/
theorem C11_replica_in_sync (envA envR : Env) (hh : envA.cfg.history = true) (sA sR : St)
    (hv : (survivor {} (processRounds envA sA)).valid = true) :
    let auth := (processRequest envA sA).1.core
    (replayTransition envR auth.prev.dest sR).1.core.active = auth.active := by
  intro auth
  obtain ⟨h1, h2, _⟩ := C11_history_is_applied envA hh sA
  have hd : auth.prev.dest ≠ 255 := by
    show (processRequest envA sA).1.core.prev.dest ≠ 255
    rw [h1]; simpa [Tr.valid] using hv
  rw [(C11_replay_spec envR _ hd sR).1]
  show (processRequest envA sA).1.core.prev.dest = (processRequest envA sA).1.core.active
  rw [h1, h2 hv]

/-- … and when the authority applied nothing its history is empty (destination 255): the replica is
    told nothing and both stay where they were -/
theorem C11_replica_idle (envA : Env) (hh : envA.cfg.history = true) (sA : St)
    (hv : (survivor {} (processRounds envA sA)).valid = false) :
    (processRequest envA sA).1.core.prev.valid = false ∧
    (processRequest envA sA).1.core.active = sA.core.active := by
  obtain ⟨h1, _, h3⟩ := C11_history_is_applied envA hh sA
  exact ⟨by rw [h1]; exact hv, h3 hv⟩

/-- **`replayTransition(INVALID)`** (Q4): returns false, runs no callback, leaves activity, plan and
    request untouched; it clears the history -/
theorem C11_replay_invalid (cfg : Cfg) (beh : Beh) (w : World) (k i : Nat) (c : Core)
    (hw : w.get i = some c) (hh : cfg.history = true) (ha : c.active ≠ 255) :
    step cfg beh w k (.replayTransition i 255) =
      (w.put i (some { c with prev := c.prev.clear }),
       [.api i k "replayTransition" (apiObs cfg { c with prev := c.prev.clear } (some false))]) := by
  have hact : (c.active != 255) = true := by simpa using ha
  simp only [step_eq, Op.inst, hw, effect, hh, hact, beq_self_eq_true, Bool.or_true, Bool.and_self, reduceIte]
  rfl

end FFSM2
