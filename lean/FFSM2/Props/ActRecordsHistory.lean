import FFSM2.Lemmas.ActRecords
/-!
# C16 over whole histories: every action of user code is followed by exactly its record

`C16_history_action_records` — any world, any API call on an instance that has a logger attached (logging compiled in):
wherever a callback performs `changeTo` / `changeWith`, `cancelPendingTransition`, `succeed` or `fail`, the very next
event of the trace is the record of that action for that instance — transition (caller, requested destination),
cancellation (caller), task status (reported state, succeeded / failed).  Records therefore appear exactly once per
action and in the order the actions occur.
-/
namespace FFSM2
open Step

theorem aStep_ok (st : ASt) (e : Ev) (h : (aStep st e).2 = true) : st.2 = true := by
  obtain ⟨p, ok⟩ := st
  cases p with
  | none => cases e with
    | act k a => simp only [aStep] at h; split at h <;> exact h
    | _ => exact h
  | some t => cases e with
    | log j r' => simp only [aStep, Bool.and_eq_true] at h; exact h.1.1
    | _ => cases h

/-- what acceptance means, in plain words -/
theorem aclosed_spec {es : List Ev} (h : AClosed es) (pre post : List Ev) (k : Key) (a : Action) (r : LogRec)
    (hs : es = pre ++ Ev.act k a :: post) (hr : actRecord k.sid a = some r) :
    ∃ post', post = Ev.log k.inst r :: post' := by
  unfold AClosed at h
  rw [hs, List.foldl_append, List.foldl_cons] at h
  have h0 := foldl_ok aStep_ok post _ (congrArg Prod.snd h)
  generalize List.foldl aStep (none, true) pre = st at h h0
  obtain ⟨p, ok⟩ := st
  cases p with
  | some t => cases h0
  | none =>
    simp only [aStep, hr] at h
    cases post with
    | nil => cases h
    | cons e post' =>
      have h2 := foldl_ok aStep_ok post' _ (congrArg Prod.snd h)
      cases e with
      | log j r' =>
        simp only [aStep, Bool.and_eq_true, beq_iff_eq] at h2
        exact ⟨post', by rw [h2.1.2, h2.2]⟩
      | _ => cases h2

theorem apiStep_aclosed {cfg : Cfg} {w : World} {env : Env} {tag : ApiTag} {slot : Option Core} {c : Core} {f : Step}
    (h : ApiStep cfg w env tag slot c f) (hl : env.cfg.logging = true) (hc : c.logger = true) : AClosed (f { core := c }).2 := by
  cases h with
  | constructManual | replayClear | attachLogger => exact aclosed_nil
  | constructAuto | enter => exact (lclosed_initialEnter env _).2 hl hc
  | exit => exact (lclosed_finalExit env _).2 hl hc
  | update | react => exact (lclosed_cycle env _ _ _ _).2 hl hc
  | query => exact (lclosed_query env _).2 hl hc
  | change => exact (lclosed_extChange env _ _ _).2 hl hc
  | immediate => exact ((LClosed.seq (lclosed_extChange env _ _) (lclosed_processRequest env)) _).2 hl hc
  | status => exact (lclosed_extStatus env _ _ _).2 hl hc
  | planAppend | planEdit => exact aclosed_applyAction env _ _ _
  | load => exact (lclosed_load env _ _).2 hl hc
  | replayEnter => exact (lclosed_replayEnter env _ _).2 hl hc
  | replayTransition => exact (lclosed_replayTransition env _ _).2 hl hc

theorem aclosed_single {e : Ev} (h : e.isAct = false) : AClosed [e] :=
  aclosed_noAct (List.forall_mem_singleton.mpr h)

/-- one API call (other than a construction) from any world, on an instance whose logger is attached when the call begins -/
theorem stepAll_aclosed (cfg : Cfg) (hl : cfg.logging = true) (beh : Beh) (w : World) (k : Nat) (op : Op)
    (hlog : ∀ c, w.get op.inst = some c → c.logger = true) (hnc : op.tag ≠ some .construct) :
    AClosed (stepAll cfg beh w k op).2 := by
  have bnd : ∀ {b}, CallEnd op.inst k b → AClosed [b] := fun hb => aclosed_single (by cases hb <;> rfl)
  refine stepAll_trace cfg beh w k op (fun _ hb => bnd hb) (fun _ htag hget hf hb => ?_)
    (fun c _ hget hb => aclosed_append ((lclosed_finalExit ⟨cfg, beh, op.inst, k⟩ _).2 hl (hlog _ hget)) (bnd hb))
  refine aclosed_append (apiStep_aclosed (env := ⟨cfg, beh, op.inst, k⟩) hf hl ?_) (bnd hb)
  cases hf with
  | constructManual | constructAuto =>
    -- a free slot: only a construction is accepted there
    exact absurd ((Op.call_cases htag).resolve_right fun h => by rcases h with h | h <;> cases h) hnc
  | _ => exact hlog _ hget

theorem construct_aclosed (cfg : Cfg) (hl : cfg.logging = true) (beh : Beh) (w : World) (k i : Nat) :
    AClosed (stepAll cfg beh w k (.construct i true)).2 := by
  rw [stepAll_eq]
  show AClosed (Effect.events cfg i k _ (effect ⟨cfg, beh, i, k⟩ w (.construct i true) (w.get i)))
  cases w.get i with
  | some c => exact aclosed_single rfl
  | none =>
    show AClosed (Effect.events cfg i k _ (if cfg.manual then _ else _))
    split
    · exact aclosed_append aclosed_nil (aclosed_single rfl)
    · exact aclosed_append ((lclosed_initialEnter ⟨cfg, beh, i, k⟩ _).2 hl (by simp [initCore, hl])) (aclosed_single rfl)

/-- **C16 over whole histories — every action of user code is followed by exactly its record.**  Any world, any call on
    an instance whose logger is attached (or the construction of an instance with a logger): wherever the trace of the
    call shows a callback performing a request, a cancellation or a task status report, the next event is that action's
    record for that instance. -/
theorem C16_history_action_records (cfg : Cfg) (hl : cfg.logging = true) (beh : Beh) (w : World) (k0 : Nat) (op : Op)
    (hlog : ∀ c, w.get op.inst = some c → c.logger = true) (hnc : op.tag ≠ some .construct)
    (pre post : List Ev) (k : Key) (a : Action) (r : LogRec)
    (hs : (stepAll cfg beh w k0 op).2 = pre ++ Ev.act k a :: post) (hr : actRecord k.sid a = some r) :
    ∃ post', post = Ev.log k.inst r :: post' :=
  aclosed_spec (stepAll_aclosed cfg hl beh w k0 op hlog hnc) pre post k a r hs hr

theorem C16_history_action_records_construct (cfg : Cfg) (hl : cfg.logging = true) (beh : Beh) (w : World) (k0 i : Nat)
    (pre post : List Ev) (k : Key) (a : Action) (r : LogRec)
    (hs : (stepAll cfg beh w k0 (.construct i true)).2 = pre ++ Ev.act k a :: post) (hr : actRecord k.sid a = some r) :
    ∃ post', post = Ev.log k.inst r :: post' :=
  aclosed_spec (construct_aclosed cfg hl beh w k0 i) pre post k a r hs hr

/-- non-vacuity: a logged update whose callback requests a transition and reports success: both actions are followed
    by their records, and the automaton accepts the whole trace -/
example :
    let cfg : Cfg := { n := 2, L := 2, cap := 1, logging := true, plans := true }
    let beh : Beh := fun k => if k.method = .update ∧ k.sid = 0 then [.changeTo 1, .succeed none] else []
    let es := (run cfg beh [.construct 0 true, .update 0]).2
    (es.filter Ev.isAct).length = 2 ∧ es.foldl aStep (none, true) = (none, true) := by
  decide +kernel

end FFSM2
