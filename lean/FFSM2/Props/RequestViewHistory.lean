import FFSM2.Props.History
import FFSM2.Lemmas.PrevInv
import FFSM2.Props.C05
import FFSM2.Lemmas.ReqView
/-!
# C06 over whole histories: the request a lifecycle callback is shown is the request that is waiting

"Inside any state callback the control reports … the request currently waiting to be processed (if any)."
`enter` / `exit` / `reenter` receive a plan control and cannot request anything, so what they are shown can be
compared with what is left in the machine when the call returns:

* `C06_processRequest_life_request` — every lifecycle delivery of a processing point shows exactly the request
  the machine holds when processing ends (nothing, unless the substitution limit left one over);
* `C06_history_update_life_request` / `C06_history_react_life_request` / `C06_history_immediate_life_request` —
  the same from any world for the public calls;
* `C06_load_request_view` / `C06_history_load_request_view` — `load()` on an active machine discards the
  outstanding request (and, with transition history, the recorded transition) *before* it delivers anything:
  every `exit` / `enter` / `reenter` it delivers shows no request, and none is waiting afterwards, whatever the
  loader held, whatever the buffer holds and whichever features are enabled;
* `C06_history_update_first_sees_waiting` / `…react…` / `C06_history_waiting_request_carried` — the first callback of the
  next call is shown the request the previous call left waiting;
* `C06_history_query_shows_waiting`, `C06_replay_request_view` — `query()` and the replay show, and leave, what is waiting.
-/
namespace FFSM2
open Step

/-- **the lifecycle callbacks of a processing point see the request that is waiting when it ends** -/
theorem C06_processRequest_life_request (env : Env) (s : St) :
    ∀ e ∈ (processRequest env s).2, ∀ key vis o, e = Ev.cb key vis o → key.method.isLife = true →
      o.request = (processRequest env s).1.core.request.canon := by
  intro e he key vis o hk hl
  obtain ⟨S, h1, h2⟩ := processRequest_life env s
  obtain ⟨r1, r2⟩ := ShowsReq.seq (showsReq_applySurvivor env _) (showsReq_finishProcessing env _) S
  rw [h1, r1]
  exact r2 e (h2 e he (by rw [hk]; exact hl)) key vis o hk

/-- every lifecycle delivery of the step shows the request that is waiting when the step ends -/
def LifeShows (f : Step) : Prop :=
  ∀ s, ∀ e ∈ (f s).2, ∀ key vis o, e = Ev.cb key vis o → key.method.isLife = true → o.request = (f s).1.core.request.canon

theorem cycle_life_request (env : Env) (pre mid post : Method)
    (h1 : pre.isLife = false ∧ pre.isGuard = false) (h2 : mid.isLife = false ∧ mid.isGuard = false)
    (h3 : post.isLife = false ∧ post.isGuard = false) : LifeShows (cycle env pre mid post) := by
  intro s e he key vis o hk hl
  rw [cycle_eq] at he ⊢
  rcases List.mem_append.mp he with he | he
  · have := List.filter_eq_nil_iff.mp ((C05_requests_last env pre mid post h1 h2 h3).1 s) e he
    rw [hk] at this
    exact absurd hl this
  · exact C06_processRequest_life_request env _ e he key vis o hk hl

theorem lifeShows_immediate (env : Env) (d : Nat) (p : Option Nat) : LifeShows (extChange env d p ⋙ processRequest env) :=
  fun _ e he key vis o hk hl => (List.mem_append.mp he).elim (fun he => nomatch hk ▸ eq_of_mem_logEv he)
    fun he => C06_processRequest_life_request env _ e he key vis o hk hl

/-- what the step's lifecycle deliveries show is what the call's show, and what the step leaves waiting is in the slot -/
theorem LifeShows.call {f : Step} (hf : LifeShows f) {cfg : Cfg} {w : World} {i k : Nat} {name : String} {c c' : Core}
    {ret : Core → Option Bool} (hget : (onCore cfg w i k name c f ret).1.get i = some c') :
    ∀ e ∈ (onCore cfg w i k name c f ret).2, ∀ key vis o, e = Ev.cb key vis o → key.method.isLife = true →
      o.request = c'.request.canon := by
  rw [onCore_get] at hget
  cases hget
  exact fun e he key vis o hk hl => hf _ e (onCore_mem_cb he hk) key vis o hk hl

/-- **C06 over whole histories — `update()`**: from any world, every `exit` / `enter` / `reenter` the call delivers
    shows as `request()` exactly the request instance `i` holds when the call returns -/
theorem C06_history_update_life_request (cfg : Cfg) (beh : Beh) (w : World) (k i : Nat) (c c' : Core)
    (hg : w.get i = some c) (ha : c.active ≠ 255)
    (hget : (stepAll cfg beh w k (.update i)).1.get i = some c') :
    ∀ e ∈ (stepAll cfg beh w k (.update i)).2, ∀ key vis o, e = Ev.cb key vis o → key.method.isLife = true →
      o.request = c'.request.canon := by
  rw [stepAll_update cfg beh k hg ha] at hget ⊢
  exact LifeShows.call (cycle_life_request ⟨cfg, beh, i, k⟩ .preUpdate .update .postUpdate ⟨rfl, rfl⟩ ⟨rfl, rfl⟩ ⟨rfl, rfl⟩) hget

theorem C06_history_react_life_request (cfg : Cfg) (beh : Beh) (w : World) (k i : Nat) (c c' : Core)
    (hg : w.get i = some c) (ha : c.active ≠ 255)
    (hget : (stepAll cfg beh w k (.react i)).1.get i = some c') :
    ∀ e ∈ (stepAll cfg beh w k (.react i)).2, ∀ key vis o, e = Ev.cb key vis o → key.method.isLife = true →
      o.request = c'.request.canon := by
  rw [stepAll_react cfg beh k hg ha] at hget ⊢
  exact LifeShows.call (cycle_life_request ⟨cfg, beh, i, k⟩ .preReact .react .postReact ⟨rfl, rfl⟩ ⟨rfl, rfl⟩ ⟨rfl, rfl⟩) hget

theorem C06_history_immediate_life_request (cfg : Cfg) (beh : Beh) (w : World) (k i d : Nat) (c c' : Core)
    (hg : w.get i = some c) (hcond : (c.active != 255 && idOk cfg d) = true)
    (hget : (stepAll cfg beh w k (.immediateChangeTo i d)).1.get i = some c') :
    ∀ e ∈ (stepAll cfg beh w k (.immediateChangeTo i d)).2, ∀ key vis o, e = Ev.cb key vis o → key.method.isLife = true →
      o.request = c'.request.canon := by
  rw [stepAll_immediateChangeTo cfg beh k hg hcond] at hget ⊢
  exact (lifeShows_immediate _ d none).call hget

theorem C06_history_immediate_with_life_request (cfg : Cfg) (beh : Beh) (w : World) (k i d p : Nat) (c c' : Core)
    (hg : w.get i = some c) (hcond : (c.active != 255 && idOk cfg d && cfg.hasPayload) = true)
    (hget : (stepAll cfg beh w k (.immediateChangeWith i d p)).1.get i = some c') :
    ∀ e ∈ (stepAll cfg beh w k (.immediateChangeWith i d p)).2, ∀ key vis o, e = Ev.cb key vis o → key.method.isLife = true →
      o.request = c'.request.canon := by
  rw [stepAll_immediateChangeWith cfg beh k hg hcond] at hget ⊢
  exact (lifeShows_immediate _ d (some p)).call hget

/-! ### `load()` -/

theorem canon_clear (t : Tr) : t.clear.canon = {} := by
  simp [Tr.canon, Tr.clear, Tr.valid]

/-- **`load()` of an active machine from a buffer holding an active machine**: the outstanding request is
    discarded before anything is delivered — every delivery shows no request, none is waiting afterwards, and
    with transition history the recorded transition is empty afterwards — for every buffer content, every loader
    state and every feature set -/
theorem C06_load_request_view (env : Env) (buf : List Nat) (s : St) (ha : s.core.active ≠ 255)
    (hb : (BitStream.read 1 buf 0).1 ≠ 0) :
    (load env buf s).1.core.request.valid = false ∧
    (env.cfg.history = true → (load env buf s).1.core.prev.valid = false) ∧
    ∀ e ∈ (load env buf s).2, ∀ key vis o, e = Ev.cb key vis o → o.request = {} := by
  rw [load_eq]
  dsimp only
  rw [if_pos (bne_iff_ne.mpr hb), if_pos (bne_iff_ne.mpr ha), loadActive_eq]
  simp only [Step.seq, modifyCore, List.nil_append]
  refine ⟨?_, ?_, ?_⟩
  · rw [(showsReq_changeToRequested env {} _).1, wipe_request]; rfl
  · intro hh
    rw [prevSame_changeToRequested env {} _, wipe_prev hh]
    rfl
  · intro e he key vis o hk
    rw [(showsReq_changeToRequested env {} _).2 e he key vis o hk]
    show (wipe env.cfg _).request.canon = {}
    rw [wipe_request, canon_clear]

/-- **C06 over whole histories — `load()`**: in any world, for an active loader and an active saver (of any
    instance, itself included): every callback delivered while the buffer is applied shows an empty `request()`,
    and the loader holds no request when `load()` returns -/
theorem C06_history_load_request_view (cfg : Cfg) (hwf : cfg.WF) (beh : Beh) (ops : List Op) (k i src : Nat) (c sc c' : Core)
    (hi : (run cfg beh ops).1.get i = some c) (hs : (run cfg beh ops).1.get src = some sc)
    (hser : cfg.serialization = true) (ha : c.active ≠ 255) (hsa : sc.active ≠ 255)
    (hget : (stepAll cfg beh (run cfg beh ops).1 k (.load i src)).1.get i = some c') :
    c'.request.valid = false ∧ (cfg.history = true → c'.prev.valid = false) ∧
    ∀ e ∈ (stepAll cfg beh (run cfg beh ops).1 k (.load i src)).2, ∀ key vis o, e = Ev.cb key vis o → o.request = {} := by
  have hlt := (run_worldOk cfg hwf beh ops src sc hs).active.resolve_right hsa
  generalize (run cfg beh ops).1 = w at hi hs hget
  rw [stepAll_load cfg beh k hi hs (load_cond hser (.inr ⟨ha, hsa⟩))] at hget ⊢
  rw [onCore_get] at hget
  cases hget
  have hb : (BitStream.read 1 (save cfg sc) 0).1 ≠ 0 := by
    rw [(load_decode_active cfg hwf sc hlt).1]; decide
  obtain ⟨r1, r2, r3⟩ := C06_load_request_view ⟨cfg, beh, i, k⟩ (save cfg sc) { core := c } ha hb
  exact ⟨r1, r2, fun e he key vis o hk => r3 e (onCore_mem_cb he hk) key vis o hk⟩

/-- non-vacuity: instance 0 holds the request `changeTo(2)` when it loads instance 1's state (state 1):
    `exit(0)` and `enter(1)` both see an empty request, and the following `update()` finds nothing to process -/
example :
    let cfg : Cfg := { n := 3, L := 2, cap := 2, serialization := true }
    let beh : Beh := fun _ => []
    let r := run cfg beh [.construct 0 false, .construct 1 false, .immediateChangeTo 1 1, .changeTo 0 2, .load 0 1, .update 0]
    r.2.filterMap (fun e => match e with
      | .cb k _ o => if k.op ≥ 4 ∧ k.layer = Ancestors.Layer.own ∧ k.method.isLife then some (k.op, k.method, k.sid, o.request.dest) else none
      | _ => none) = [(4, .exit, 0, 255), (4, .enter, 1, 255)] ∧
    actOf (r.1.get 0) = 1 := by
  decide +kernel

/-! ### the next call starts from the request the previous one left -/

/-- **C06 over whole histories — the first callback of `update()`** is shown exactly the request the instance
    held when the call began -/
theorem C06_history_update_first_sees_waiting (cfg : Cfg) (beh : Beh) (w : World) (k i : Nat) (c : Core)
    (hg : w.get i = some c) (ha : c.active ≠ 255) :
    ∃ key vis o rest, (stepAll cfg beh w k (.update i)).2.filter Ev.isCb = Ev.cb key vis o :: rest ∧
      o.request = c.request.canon := by
  rw [stepAll_update cfg beh k hg ha, onCore_inner methodPred_isCb.inner]
  exact starts_cycle ⟨cfg, beh, i, k⟩ .preUpdate .update .postUpdate { core := c }

/-- **what the lifecycle callbacks of one `update()` were shown is what the first callback of the next one is
    shown**: the request is the one really waiting — it is neither dropped nor invented between the calls -/
theorem C06_history_waiting_request_carried (cfg : Cfg) (beh : Beh) (w : World) (k k' i : Nat) (c c' : Core)
    (hg : w.get i = some c) (ha : c.active ≠ 255)
    (hget : (stepAll cfg beh w k (.update i)).1.get i = some c') (ha' : c'.active ≠ 255) :
    ∃ key vis o rest, (stepAll cfg beh (stepAll cfg beh w k (.update i)).1 k' (.update i)).2.filter Ev.isCb = Ev.cb key vis o :: rest ∧
      ∀ e ∈ (stepAll cfg beh w k (.update i)).2, ∀ key' vis' o', e = Ev.cb key' vis' o' → key'.method.isLife = true →
        o'.request = o.request := by
  obtain ⟨key, vis, o, rest, h1, h2⟩ := C06_history_update_first_sees_waiting cfg beh _ k' i c' hget ha'
  refine ⟨key, vis, o, rest, h1, ?_⟩
  intro e he key' vis' o' hk hl
  rw [h2]
  exact C06_history_update_life_request cfg beh w k i c c' hg ha hget e he key' vis' o' hk hl

/-- non-vacuity: a substitution limit of 1 leaves the redirect of state 1's entry guard waiting — `exit(0)` /
    `enter(1)` of the first `update()` and `preUpdate` of the second all see it -/
example :
    let cfg : Cfg := { n := 3, L := 1, cap := 2 }
    let beh : Beh := fun k => if k.method = .entryGuard ∧ k.sid = 1 then [.changeTo 2] else []
    let r := run cfg beh [.construct 0 false, .changeTo 0 1, .update 0, .update 0]
    r.2.filterMap (fun e => match e with
      | .cb k _ o => if k.layer = Ancestors.Layer.own ∧ (k.op = 2 ∧ k.method.isLife ∨ k.op = 3 ∧ k.method = .preUpdate ∧ k.sid = 255)
          then some (k.op, k.method, k.sid, o.request.origin, o.request.dest) else none
      | _ => none) = [(2, .exit, 0, 1, 2), (2, .enter, 1, 1, 2), (3, .preUpdate, 255, 1, 2)] := by
  decide +kernel

/-! ### `query()`, `react()` and the replay calls -/

/-- **C06 over whole histories — `query()`**: every delivery of the call shows the request the instance holds, and
    the call leaves it waiting -/
theorem C06_history_query_shows_waiting (cfg : Cfg) (beh : Beh) (w : World) (k i : Nat) (c c' : Core)
    (hg : w.get i = some c) (ha : c.active ≠ 255)
    (hget : (stepAll cfg beh w k (.query i)).1.get i = some c') :
    c'.request = c.request ∧
    ∀ e ∈ (stepAll cfg beh w k (.query i)).2, ∀ key vis o, e = Ev.cb key vis o → o.request = c.request.canon := by
  rw [stepAll_query cfg beh k hg ha] at hget ⊢
  rw [onCore_get] at hget
  cases hget
  obtain ⟨h1, h2⟩ := showsReq_query ⟨cfg, beh, i, k⟩ { core := c }
  exact ⟨h1, fun e he key vis o hk => h2 e (onCore_mem_cb he hk) key vis o hk⟩

theorem C06_history_react_first_sees_waiting (cfg : Cfg) (beh : Beh) (w : World) (k i : Nat) (c : Core)
    (hg : w.get i = some c) (ha : c.active ≠ 255) :
    ∃ key vis o rest, (stepAll cfg beh w k (.react i)).2.filter Ev.isCb = Ev.cb key vis o :: rest ∧
      o.request = c.request.canon := by
  rw [stepAll_react cfg beh k hg ha, onCore_inner methodPred_isCb.inner]
  exact starts_cycle ⟨cfg, beh, i, k⟩ .preReact .react .postReact { core := c }

/-- **replaying a transition neither shows nor touches anything but the request that is waiting**: every
    `exit` / `enter` / `reenter` of `replayTransition(d)` shows the instance's outstanding request, and it is still
    outstanding afterwards -/
theorem C06_replay_request_view (env : Env) (d : Nat) (s : St) :
    (replayTransition env d s).1.core.request = s.core.request ∧
    ∀ e ∈ (replayTransition env d s).2, ∀ key vis o, e = Ev.cb key vis o → o.request = s.core.request.canon :=
  showsReq_replayTransition env d s

end FFSM2
