import FFSM2.Props.History
import FFSM2.Props.C05
/-!
# C05 over whole histories: what one `update()` / `react()` / `query()` delivers, from any world

* `C05_history_update_order` / `C05_history_react_order` — any world, an active instance whose active state is
  `a`: the own-layer deliveries of the call are exactly `pre` on the root then on `a`, `mid` on the root then on
  `a`, `post` on `a` then on the root — once each, in this order, for the state active **when the call began** —
  followed by deliveries none of which is a phase callback (plan outcome, guards, exit / enter / reenter).
* `C05_history_inactive_rejected` — on an inactive machine the call delivers nothing.
* `C05_history_query` — `query()` delivers `query` to the root then to the active state and leaves the
  instance's core exactly as it was.
-/
namespace FFSM2
open Step

def Method.isPhase : Method → Bool
  | .preUpdate | .update | .postUpdate | .preReact | .react | .postReact | .query => true
  | _ => false

/-- a delivery of one of the update / react / query phase callbacks -/
def Ev.isPhase : Ev → Bool
  | .cb k _ _ => k.method.isPhase
  | _ => false

theorem methodPred_isPhase : MethodPred Ev.isPhase :=
  ⟨fun e h => by cases e <;> first | rfl | cases h⟩

theorem phase_excl {m : Method} (h : m.isPhase = false) : Excl Ev.isPhase m := by
  intro k _ _ hk
  simp [Ev.isPhase, hk, h]

theorem exclCore_isPhase : ExclCore Ev.isPhase :=
  ⟨phase_excl rfl, phase_excl rfl, phase_excl rfl, phase_excl rfl, phase_excl rfl⟩

/-- a trace without phase deliveries has no phase method in its own-layer signature -/
theorem ownSig_noPhase {es : List Ev} (h : es.filter Ev.isPhase = []) : ∀ x ∈ ownSig es, x.1.isPhase = false :=
  fun x hx => Bool.eq_false_iff.mpr (ownSig_method (q := Method.isPhase) (fun _ _ _ => List.filter_eq_nil_iff.mp h _) x hx)

/-- after the three phases nothing of a cycle delivers a phase callback -/
theorem silent_afterPhases (env : Env) :
    Silent Ev.isPhase ((if env.cfg.plans then planStep env else skip) ⋙ processRequest env) := by
  refine Silent.seq ?_ (silent_processRequest methodPred_isPhase exclCore_isPhase env)
  split
  · exact silent_planStep methodPred_isPhase env (phase_excl rfl) (phase_excl rfl)
  · exact silent_skip _

theorem cycle_order (env : Env) (pre mid post : Method) (hpre : headFirst pre = true) (hmid : headFirst mid = true)
    (hpost : headFirst post = false) (s : St) :
    ∃ rest, ownSig (cycle env pre mid post s).2 =
        [(pre, 255), (pre, s.core.active), (mid, 255), (mid, s.core.active), (post, s.core.active), (post, 255)] ++ rest ∧
      ∀ x ∈ rest, x.1.isPhase = false := by
  refine ⟨ownSig (((if env.cfg.plans then planStep env else skip) ⋙ processRequest env) (cyclePhases env pre mid post s).1).2, ?_, ?_⟩
  · have e : cycle env pre mid post s =
        (cyclePhases env pre mid post ⋙ ((if env.cfg.plans then planStep env else skip) ⋙ processRequest env)) s := by
      rw [cycle_eq_phases]; simp only [Step.seq, List.append_assoc]
    rw [e, seq_snd, ownSig_append, (C05_phase_order env pre mid post hpre hmid hpost s).1]
  · exact ownSig_noPhase (silent_afterPhases env _)

/-- **C05 over whole histories — `update()`**: from any world, on an active instance -/
theorem C05_history_update_order (cfg : Cfg) (beh : Beh) (w : World) (k i : Nat) (c : Core)
    (hg : w.get i = some c) (ha : c.active ≠ 255) :
    ∃ rest, ownSig (stepAll cfg beh w k (.update i)).2 =
        [(.preUpdate, 255), (.preUpdate, c.active), (.update, 255), (.update, c.active),
         (.postUpdate, c.active), (.postUpdate, 255)] ++ rest ∧
      ∀ x ∈ rest, x.1.isPhase = false := by
  rw [stepAll_update cfg beh k hg ha, onCore_inner ownSig_inner]
  exact cycle_order ⟨cfg, beh, i, k⟩ .preUpdate .update .postUpdate rfl rfl rfl { core := c }

theorem C05_history_react_order (cfg : Cfg) (beh : Beh) (w : World) (k i : Nat) (c : Core)
    (hg : w.get i = some c) (ha : c.active ≠ 255) :
    ∃ rest, ownSig (stepAll cfg beh w k (.react i)).2 =
        [(.preReact, 255), (.preReact, c.active), (.react, 255), (.react, c.active),
         (.postReact, c.active), (.postReact, 255)] ++ rest ∧
      ∀ x ∈ rest, x.1.isPhase = false := by
  rw [stepAll_react cfg beh k hg ha, onCore_inner ownSig_inner]
  exact cycle_order ⟨cfg, beh, i, k⟩ .preReact .react .postReact rfl rfl rfl { core := c }

/-- **no callback of an inactive machine**: `update()` / `react()` / `query()` on an inactive instance are
    rejected and deliver nothing -/
theorem C05_history_inactive_rejected (cfg : Cfg) (beh : Beh) (w : World) (k i : Nat) (c : Core)
    (hg : w.get i = some c) (ha : c.active = 255) :
    ownSig (stepAll cfg beh w k (.update i)).2 = [] ∧ ownSig (stepAll cfg beh w k (.react i)).2 = [] ∧
    ownSig (stepAll cfg beh w k (.query i)).2 = [] ∧
    (stepAll cfg beh w k (.update i)).1 = w ∧ (stepAll cfg beh w k (.react i)).1 = w ∧ (stepAll cfg beh w k (.query i)).1 = w := by
  have hact : ¬ (c.active != 255) = true := by simp [ha]
  rw [stepAll_guard (op := .update i) rfl hg rfl, stepAll_guard (op := .react i) rfl hg rfl, stepAll_guard (op := .query i) rfl hg rfl,
    if_neg hact, if_neg hact, if_neg hact]
  exact ⟨rfl, rfl, rfl, rfl, rfl, rfl⟩

/-- **C05 over whole histories — `query()`**: root then active state, and the instance's core is untouched -/
theorem C05_history_query (cfg : Cfg) (beh : Beh) (w : World) (k i : Nat) (c : Core)
    (hg : w.get i = some c) (ha : c.active ≠ 255) :
    ownSig (stepAll cfg beh w k (.query i)).2 = [(.query, 255), (.query, c.active)] ∧
    (stepAll cfg beh w k (.query i)).1.get i = some c := by
  rw [stepAll_query cfg beh k hg ha, onCore_inner ownSig_inner, onCore_get]
  have h := C05_query_readonly ⟨cfg, beh, i, k⟩ { core := c }
  exact ⟨h.2, by rw [h.1]⟩

/-- non-vacuity: an update whose `preUpdate` requests a transition — the six phase deliveries come first, the
    exit / enter of the transition afterwards -/
example :
    let cfg : Cfg := { n := 3, L := 2, cap := 2 }
    let beh : Beh := fun k => if k.method = .preUpdate ∧ k.sid = 0 then [.changeTo 2] else []
    ownSig (stepAll cfg beh (run cfg beh [.construct 0 false]).1 1 (.update 0)).2 =
      [(.preUpdate, 255), (.preUpdate, 0), (.update, 255), (.update, 0), (.postUpdate, 0), (.postUpdate, 255),
       (.exitGuard, 0), (.entryGuard, 2), (.exit, 0), (.enter, 2)] := by
  decide +kernel

end FFSM2
