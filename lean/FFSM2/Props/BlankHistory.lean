import FFSM2.Props.History
import FFSM2.Props.C12
/-!
# C01 — a deactivated machine keeps nothing of its previous life

`Blank cfg c`: inactive, no request waiting, and — for the compiled-in features — no task, no `planExists`, no
success / failure report, no accumulated status, no recorded transition.  This is what the final exit leaves behind
(`C01_finalExit_blank`), whatever the machine held when it was stopped and whatever its callbacks did during the
exit; hence after `exit()` from any world (`C01_history_exit_blank`) and after `load()` of an inactive machine's
buffer (`C12_history_load_inactive_blank`).  A freshly constructed manual machine is blank too (`blank_init`), so a
restarted machine starts from where a new one starts.
-/
namespace FFSM2
open Step

structure Blank (cfg : Cfg) (c : Core) : Prop where
  active : c.active = 255
  requested : c.requested = 255
  request : c.request.valid = false
  plan : cfg.plans = true → c.plan = [] ∧ c.planExists = false ∧ (∀ b ∈ c.succ, b = false) ∧ (∀ b ∈ c.fail, b = false) ∧
    c.subStatus = Status.none
  prev : cfg.history = true → c.prev.valid = false

theorem blank_init (cfg : Cfg) (lg : Bool) : Blank cfg (initCore cfg lg) := by
  refine ⟨rfl, rfl, rfl, fun _ => ⟨rfl, rfl, ?_, ?_, rfl⟩, fun _ => rfl⟩
  · intro b hb; exact (List.mem_replicate.mp hb).2
  · intro b hb; exact (List.mem_replicate.mp hb).2

theorem mem_map_false {l : List Bool} {b : Bool} (h : b ∈ l.map (fun _ => false)) : b = false := by
  obtain ⟨_, _, rfl⟩ := List.mem_map.mp h
  rfl

/-- **the final exit leaves a blank machine** — for every state it is run from and every behaviour of the
    callbacks it delivers -/
theorem C01_finalExit_blank (env : Env) (s : St) : Blank env.cfg (finalExit env s).1.core := by
  rw [finalExit_eq]
  refine ⟨(wipe_registry _ _).1, (wipe_registry _ _).2, (congrArg Tr.valid (wipe_request _ _)).trans rfl, fun hp => ?_,
    fun hh => (congrArg Tr.valid (wipe_prev hh _)).trans rfl⟩
  show (wipe env.cfg _).plan = [] ∧ _
  unfold wipe
  rw [hp]
  cases env.cfg.history <;> exact ⟨rfl, rfl, fun _ => mem_map_false, fun _ => mem_map_false, rfl⟩

/-- **C01 over whole histories — `exit()`**: from any world, the stopped instance is blank -/
theorem C01_history_exit_blank (cfg : Cfg) (beh : Beh) (w : World) (k i : Nat) (c c' : Core)
    (hg : w.get i = some c) (hm : cfg.manual = true) (ha : c.active ≠ 255)
    (hget : (stepAll cfg beh w k (.exit i)).1.get i = some c') : Blank cfg c' := by
  rw [stepAll_guarded (op := .exit i) rfl hg rfl (Bool.and_eq_true_iff.mpr ⟨hm, bne_iff_ne.mpr ha⟩)] at hget
  dsimp only [Op.inst] at hget
  rw [onCore_get] at hget
  cases hget
  exact C01_finalExit_blank ⟨cfg, beh, i, k⟩ { core := c }

/-- **C12 over whole histories — loading an inactive machine's buffer** (manual activation, active loader) leaves
    the loader blank: nothing of its previous life — request, plan, reports, recorded transition — survives -/
theorem C12_history_load_inactive_blank (cfg : Cfg) (hwf : cfg.WF) (beh : Beh) (w : World) (k i src : Nat) (c sc c' : Core)
    (hi : w.get i = some c) (hs : w.get src = some sc)
    (hser : cfg.serialization = true) (hm : cfg.manual = true) (ha : c.active ≠ 255) (hsa : sc.active = 255)
    (hget : (stepAll cfg beh w k (.load i src)).1.get i = some c') : Blank cfg c' := by
  rw [stepAll_load cfg beh k hi hs (load_cond hser (.inl hm)), onCore_get, load_save_inactive ⟨cfg, beh, i, k⟩ hwf hm sc hsa,
    if_pos (bne_iff_ne.mpr ha)] at hget
  cases hget
  exact C01_finalExit_blank ⟨cfg, beh, i, k⟩ { core := c }

/-- non-vacuity: a machine stopped while it holds a request, a plan and a report is blank afterwards -/
example :
    let cfg : Cfg := { n := 3, L := 2, cap := 2, manual := true, plans := true, history := true }
    let beh : Beh := fun _ => []
    let w := (run cfg beh [.construct 0 false, .enter 0, .immediateChangeTo 0 1, .planAppend 0 1 2 none, .succeed 0 1, .changeTo 0 2, .exit 0]).1
    (w.get 0).map (·.active) = some 255 ∧ (w.get 0).map (·.request.valid) = some false ∧
    (w.get 0).map (·.plan.length) = some 0 ∧ (w.get 0).map (·.planExists) = some false ∧
    (w.get 0).map (·.succ) = some [false, false, false] ∧ (w.get 0).map (·.prev.valid) = some false := by
  decide +kernel

end FFSM2
