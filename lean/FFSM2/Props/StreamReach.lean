import FFSM2.Props.C13
/-!
# C18 — what `read<N>()` looks at

`readTouched` lists the byte indices `BitReadStreamT::read<N>()` fetches (one per loop iteration that still has bits
to deliver — the loop of the source fetches `_buffer._data[byteIndex]` at the top of the body).

* `C18_read_touches_in_range` — for a read that fits the declared capacity all of them are inside the
  `BYTE_COUNT`-byte buffer;
* `C18_read_depends_only_on_touched` — the result of the read is a function of those bytes alone: two buffers that
  agree there give the same item and cursor;
* `C18_read_ignores_beyond_buffer` — so a read within capacity never depends on anything at or beyond index
  `BYTE_COUNT` (the byte the seeded change C18f fetches when the last item ends on the last bit).
-/
namespace FFSM2
open BitStream

/-- the byte indices the loop of `read<N>` fetches -/
def readTouchedLoop : Nat → Nat → Nat → List Nat
  | 0, _, _ => []
  | fuel + 1, cursor, itemWidth =>
    if itemWidth = 0 then [] else
      (cursor >>> 3) :: readTouchedLoop fuel (cursor + min (8 - (cursor &&& 7)) itemWidth) (itemWidth - min (8 - (cursor &&& 7)) itemWidth)

def readTouched (w cursor : Nat) : List Nat := readTouchedLoop w cursor w

theorem readTouchedLoop_in_range (cap : Nat) : ∀ (fuel cursor itemWidth : Nat), cursor + itemWidth ≤ cap →
    ∀ i ∈ readTouchedLoop fuel cursor itemWidth, i < byteCount cap
  | 0, _, _, _, i, hi => by cases hi
  | fuel + 1, cursor, itemWidth, hfit, i, hi => by
    simp only [readTouchedLoop] at hi
    split at hi
    · cases hi
    · rename_i hw
      rcases List.mem_cons.mp hi with rfl | hi
      · exact C13_byteIndex_in_range hfit cursor (Nat.le_refl _) (by omega)
      · refine readTouchedLoop_in_range cap fuel _ _ ?_ i hi
        have : min (8 - (cursor &&& 7)) itemWidth ≤ itemWidth := Nat.min_le_right _ _
        omega

/-- **every byte `read<N>()` fetches lies inside the buffer** when the read fits the declared capacity -/
theorem C18_read_touches_in_range {cap cursor w : Nat} (hfit : cursor + w ≤ cap) :
    ∀ i ∈ readTouched w cursor, i < byteCount cap :=
  readTouchedLoop_in_range cap w cursor w hfit

theorem readLoop_congr (tb : Nat) (buf buf' : List Nat) : ∀ (fuel cursor item itemCursor itemWidth : Nat),
    (∀ i ∈ readTouchedLoop fuel cursor itemWidth, buf.getD i 0 = buf'.getD i 0) →
    readLoop fuel tb buf cursor item itemCursor itemWidth = readLoop fuel tb buf' cursor item itemCursor itemWidth
  | 0, _, _, _, _, _ => rfl
  | fuel + 1, cursor, item, itemCursor, itemWidth, h => by
    simp only [readLoop]
    split
    · rfl
    · rename_i hw
      simp only [readTouchedLoop, hw, if_false, List.forall_mem_cons] at h
      rw [h.1]
      exact readLoop_congr tb buf buf' fuel _ _ _ _ h.2

/-- **the read is a function of the fetched bytes alone** -/
theorem C18_read_depends_only_on_touched (w cursor : Nat) (buf buf' : List Nat)
    (h : ∀ i ∈ readTouched w cursor, buf.getD i 0 = buf'.getD i 0) : read w buf cursor = read w buf' cursor :=
  readLoop_congr (typeBits w) buf buf' w cursor 0 0 w h

/-- **nothing at or beyond `BYTE_COUNT` matters**: whatever follows the buffer in memory, a read within the
    declared capacity returns the same item -/
theorem C18_read_ignores_beyond_buffer {cap cursor w : Nat} (hfit : cursor + w ≤ cap) (buf tail tail' : List Nat)
    (hlen : buf.length = byteCount cap) : read w (buf ++ tail) cursor = read w (buf ++ tail') cursor := by
  apply C18_read_depends_only_on_touched
  intro i hi
  have hlt : i < buf.length := by rw [hlen]; exact C18_read_touches_in_range hfit i hi
  simp [List.getD_eq_getElem?_getD, List.getElem?_append_left hlt]

/-! ### `write<N>()` -/

/-- the loop of `write<N>` visits the same byte indices as the loop of `read<N>` -/
theorem writeLoop_frame : ∀ (fuel : Nat) (buf : List Nat) (cursor itemBits itemWidth j : Nat),
    j ∉ readTouchedLoop fuel cursor itemWidth →
    (writeLoop fuel buf cursor itemBits itemWidth).1.getD j 0 = buf.getD j 0
  | 0, _, _, _, _, _, _ => rfl
  | fuel + 1, buf, cursor, itemBits, itemWidth, j, hj => by
    simp only [writeLoop]
    split
    · rfl
    · rename_i hw
      simp only [readTouchedLoop, hw, if_false, List.mem_cons, not_or] at hj
      rw [writeLoop_frame fuel _ _ _ _ j hj.2, getD_set_ne _ _ _ (Ne.symm hj.1)]

/-- **`write<N>()` changes no byte other than the ones it visits**, and for a write within the declared capacity
    those are all inside the `BYTE_COUNT`-byte buffer: nothing at or beyond `BYTE_COUNT` is ever modified -/
theorem C18_write_frame {cap cursor w : Nat} (hfit : cursor + w ≤ cap) (buf : List Nat) (item j : Nat)
    (hj : byteCount cap ≤ j) : (write w buf cursor item).1.getD j 0 = buf.getD j 0 := by
  apply writeLoop_frame
  intro hmem
  have := readTouchedLoop_in_range cap w cursor w hfit j hmem
  omega

/-- non-vacuity: a 7-bit read at bit 1 of a one-byte (8-bit) stream fetches byte 0 only — not byte 1 -/
example : readTouched 7 1 = [0] ∧ byteCount 8 = 1 := by decide +kernel

end FFSM2
