import FFSM2.Lemmas.World
import FFSM2.Lemmas.PlanStep
/-!
# C08 / C10 over whole histories: the plan is exactly what user code and the plan step made it

* `C10_history_plan_is_edit_trace` — for every API call other than `update` / `react` / `exit` / `load` / the
  plan's own API, from any world: the plan after the call is the plan before it with the edits user code
  performed during the call (`plan().change…`, `clear()`, `remove()` inside callbacks) applied in order, the
  append succeeding exactly when fewer than `capacity` tasks are present.  No task fires, none is lost, none
  appears.  (C08: *only during the plan step of update()/react()*; C10: *iterating yields precisely the tasks
  appended and not yet removed, in append order*.)
* `C08_history_cycle_plan` — for `update` / `react`: the events of the call split into three runs; before and
  after the plan step only user code's edits apply; the plan step leaves the plan alone, empties it, or removes
  exactly what `keptOf` does not keep for **the state that was active when the call began** — so
  (`C08_fire_sound`, `C08_once`) every task that fires has that state as its origin, lies in the leading run
  of its tasks, and the tasks that stay keep their order.
* `C10_history_api_append` — `plan().change…()` from outside: accepted, it appends exactly when the plan has
  room and reports exactly that; otherwise the plan is untouched.
-/
namespace FFSM2
open Step

/-- the plan of a slot (no machine: no plan) -/
def planOf : Option Core → List Task
  | some c => c.plan
  | none => []

/-- the API calls during which only user code's edits touch the plan -/
def ApiTag.tracesPlan : ApiTag → Bool
  | .update | .react | .exit | .load | .planAppend | .planEdit => false
  | _ => true

theorem apiStep_planTrace {w : World} {env : Env} {tag : ApiTag} {slot : Option Core} {c : Core} {f : Step}
    (h : ApiStep env.cfg w env tag slot c f) (ht : tag.tracesPlan = true) : PlanTrace env.cfg.cap f := by
  cases h with
  | constructManual => exact planTrace_skip
  | constructAuto | enter => exact planTrace_initialEnter env
  | exit | update | react | planAppend | planEdit | load => cases ht
  | query => exact planTrace_query env
  | change => exact planTrace_extChange env _ _
  | immediate => exact PlanTrace.seq (planTrace_extChange env _ _) (planTrace_processRequest env)
  | status => exact planTrace_extStatus env _ _
  | replayEnter => exact planTrace_replayEnter env _
  | replayClear | attachLogger => exact planTrace_modifyCore fun _ => rfl
  | replayTransition => exact planTrace_replayTransition env _

theorem apiStep_slot_plan {cfg : Cfg} {w : World} {env : Env} {tag : ApiTag} {slot : Option Core} {c : Core} {f : Step}
    (h : ApiStep cfg w env tag slot c f) : planOf slot = c.plan := by
  cases h <;> rfl

theorem noEdit_callEnd {i k : Nat} {b : Ev} (hb : CallEnd i k b) : ∀ e ∈ [b], e.isPlanEdit = false :=
  List.forall_mem_singleton.mpr (by cases hb <;> rfl)

/-- **C10 / C08 over whole histories — outside `update()` / `react()` the plan is exactly the trace of user
    code's edits.**  Any world, any call other than a cycle, `exit()`, `load()`, a copy, a destruction or the
    plan's own API: the plan of the instance afterwards is its plan before with the plan edits performed by user
    callbacks during the call applied in order (an append taking effect exactly when there is room). -/
theorem C10_history_plan_is_edit_trace (cfg : Cfg) (beh : Beh) (w : World) (k : Nat) (op : Op)
    (ht : ∀ tag, op.tag = some tag → tag.tracesPlan = true)
    (hcopy : ∀ src, op ≠ .copy op.inst src) (hdes : op ≠ .destroy op.inst) :
    planOf ((stepAll cfg beh w k op).1.get op.inst) =
      editsPlan cfg.cap (stepAll cfg beh w k op).2 (planOf (w.get op.inst)) := by
  have h := stepAll_call cfg beh w k op
  generalize stepAll cfg beh w k op = r at h
  cases h with
  | idle hb => exact (editsPlan_noEdit _ [_] _ (noEdit_callEnd hb)).symm
  | api htag hget hf hb =>
    have ht' : _ := (Op.call_cases htag).elim (ht _) fun h => by rcases h with h | h <;> rw [h] <;> rfl
    rw [World.get_put_same, editsPlan_append, editsPlan_noEdit _ [_] _ (noEdit_callEnd hb), hget, apiStep_slot_plan hf]
    exact apiStep_planTrace (env := ⟨cfg, beh, op.inst, k⟩) hf ht' { core := _ }
  | destroyManual hop => exact absurd hop hdes
  | destroyAuto hop => exact absurd hop hdes
  | copy hop => exact absurd hop (hcopy _)

/-- **C08 over whole histories — what `update()` / `react()` do to the plan.**  Any world, instance holding
    core `c`: the events of the call split into three runs `es1 ++ es2 ++ es3` (before, during, after the plan
    step) such that the plan afterwards is `es3`'s edits applied to `q`, where `q` is what the plan step left
    of `X` = the plan before the call with `es1`'s edits applied: all of it, nothing, or `keptOf X a b` for
    `a` = **the state active when the call began**. -/
theorem C08_history_cycle_plan (cfg : Cfg) (beh : Beh) (w : World) (k : Nat) (op : Op) (c : Core)
    (hg : w.get op.inst = some c) (ht : op.tag = some .update ∨ op.tag = some .react) :
    ∃ (es1 es2 es3 : List Ev) (q : List Task),
      (stepAll cfg beh w k op).2 = es1 ++ es2 ++ es3 ∧
      (q = editsPlan cfg.cap es1 c.plan ∨ q = [] ∨ ∃ b, q = keptOf (editsPlan cfg.cap es1 c.plan) c.active b) ∧
      planOf ((stepAll cfg beh w k op).1.get op.inst) = editsPlan cfg.cap es3 q := by
  -- the call is `update()` or `react()`: a cycle under the guard "active"
  obtain ⟨pre, mid, post, e⟩ : ∃ pre mid post, stepAll cfg beh w k op =
      if c.active != 255 then onCore cfg w op.inst k op.name c (cycle ⟨cfg, beh, op.inst, k⟩ pre mid post)
      else (w, [.rejected op.inst k op.name]) := by
    cases op with
    | update | react => exact ⟨_, _, _, stepAll_guard rfl hg rfl⟩
    | _ => rcases ht with ht | ht <;> cases ht
  rw [e]
  split
  · obtain ⟨es1, es2, es3, q, h1, h2, h3⟩ := cycle_plan ⟨cfg, beh, op.inst, k⟩ pre mid post { core := c }
    rw [onCore_get, onCore_snd, h1]
    refine ⟨es1, es2, es3 ++ [_], q, List.append_assoc .., h2, ?_⟩
    rw [editsPlan_append, editsPlan_noEdit _ [_] _ (noEdit_callEnd (.api _ _))]
    exact h3
  · exact ⟨[], [], [_], c.plan, rfl, Or.inl rfl, by rw [hg]; rfl⟩

/-- consequence in the words of the property: whatever the plan step removed during an `update()` /
    `react()` are tasks of the state active at the start of the call, and what it kept is in the original order -/
theorem C08_history_cycle_kept_sublist (cfg : Cfg) (beh : Beh) (w : World) (k : Nat) (op : Op) (c : Core)
    (hg : w.get op.inst = some c) (ht : op.tag = some .update ∨ op.tag = some .react) :
    ∃ (es1 es2 es3 : List Ev) (q : List Task),
      (stepAll cfg beh w k op).2 = es1 ++ es2 ++ es3 ∧
      List.Sublist q (editsPlan cfg.cap es1 c.plan) ∧
      planOf ((stepAll cfg beh w k op).1.get op.inst) = editsPlan cfg.cap es3 q := by
  obtain ⟨es1, es2, es3, q, h1, h2, h3⟩ := C08_history_cycle_plan cfg beh w k op c hg ht
  refine ⟨es1, es2, es3, q, h1, ?_, h3⟩
  rcases h2 with rfl | rfl | ⟨b, rfl⟩
  · exact List.Sublist.refl _
  · exact List.nil_sublist _
  · exact (C08_once _ _ _).2

/-- **C10 over whole histories — `plan().change…()` from outside**: from any world, with the instance holding
    core `c`: the plan afterwards is the old plan with the task appended if the call was in contract and the plan
    had room, and the old plan otherwise. -/
theorem C10_history_api_append (cfg : Cfg) (beh : Beh) (w : World) (k i o d : Nat) (p : Option Nat) (c : Core)
    (hg : w.get i = some c) :
    planOf ((stepAll cfg beh w k (.planAppend i o d p)).1.get i) =
      (if permitted cfg .plan 0 (.planAppend o d p) = true ∧ c.plan.length < cfg.cap then c.plan ++ [⟨o, d, p⟩] else c.plan) := by
  rw [stepAll_guard (op := .planAppend i o d p) rfl hg rfl]
  dsimp only [Op.inst, Op.name]
  by_cases hperm : permitted cfg .plan 0 (.planAppend o d p) = true
  · rw [if_pos hperm, onCore_get, applyAction_planAppend]
    simp only [hperm, true_and, planOf]
  · rw [if_neg hperm, hg, if_neg (fun h => hperm h.1)]
    rfl

/-- non-vacuity: a plan `[0→1, 0→2, 1→2]` with capacity 3, state 0 active and succeeded: `update()` fires
    the two leading tasks (the later one wins: state 2 is entered) and keeps `1→2` -/
example :
    let cfg : Cfg := { n := 3, L := 2, cap := 3, plans := true }
    let beh : Beh := fun _ => []
    let ops : List Op := [.construct 0 false, .planAppend 0 0 1 none, .planAppend 0 0 2 none, .planAppend 0 1 2 none,
                          .planAppend 0 2 0 none, .succeed 0 0, .update 0]
    planOf ((run cfg beh ops).1.get 0) = [⟨1, 2, none⟩] ∧ ((run cfg beh ops).1.get 0).map (·.active) = some 2 := by
  decide +kernel

end FFSM2
