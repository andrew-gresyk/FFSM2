import FFSM2.Lemmas.AllCb
import FFSM2.Lemmas.Steps
/-!
# C07 — Payloads travel intact with the transition they were attached to

Payload values are abstract naturals in the model; a transition is one value `Tr` that is copied as
a whole (request → pending → current → previous), so "equal in value" is equality of the `payload`
field.  The byte-level half (placement copy of arbitrary trivially copyable types, sizes 1/16/32,
alignments 1/8/16) is C++ truth and is carried by the correspondence: the harness spreads the payload
integer over every byte of the payload object and decodes it back at every observation point.
-/
namespace FFSM2
open Step

/-- a request carries exactly the payload it was made with, or none -/
theorem C07_request_payload (env : Env) (sid d p : Nat) (s : St) :
    (applyAction env sid (.changeWith d p) s).1.core.request.payload = some p ∧
    (applyAction env sid (.changeTo d) s).1.core.request.payload = none ∧
    (extChange env d (some p) s).1.core.request.payload = some p ∧
    (extChange env d none s).1.core.request.payload = none := ⟨rfl, rfl, rfl, rfl⟩

/-- **pending = the request as made**: the first round of a processing step evaluates exactly the
    outstanding request — origin, destination and payload — unless Q1's duplicate suppression drops it -/
theorem C07_pending_payload (round : Tr → Tr → Step) (fuel : Nat) (cur : Tr) (s : St)
    (hv : s.core.request.valid = true) (hacc : (applyRequest cur s.core.request.dest s.core).2 = true) :
    (substRounds round (fuel + 1) cur s).head?.map (·.1) = some s.core.request := by
  simp [substRounds, hv, hacc]

theorem observe_current (env : Env) (m : Method) (hm : m.flavour ≠ .const) (sid : Nat) (cur pend : Tr) (c : Core) :
    (observe env m.flavour sid cur pend c).current = some cur.canon := by
  simp only [observe]
  cases hfl : m.flavour <;> simp_all

/-- lifecycle deliveries made under `cur` all show it as `currentTransition()` -/
theorem allCb_current {env : Env} {cur : Tr} {f : Step} (hf : Emits env (fun m _ c _ => m.isLife = true ∧ c = cur) f) :
    AllCb (fun _ _ o => o.current = some cur.canon) f :=
  Emits.allCb (fun m sid _ pend hA _ _ c => by
    rw [hA.2]; exact observe_current env m (by cases m <;> first | decide | cases hA.1) sid cur pend c) hf

/-- **applied = survivor, payload included**: `exit` / `enter` / `reenter` caused by processing are
    delivered with the surviving transition (origin, destination, payload) as `currentTransition()`,
    and the history records the same value -/
theorem C07_applied_payload (env : Env) (cur : Tr) (s : St) (hh : env.cfg.history = true) :
    ((applySurvivor env cur ⋙ finishProcessing env cur) s).1.core.prev = cur ∧
    AllCb (fun _ _ o => o.current = some cur.canon) (changeToRequested env cur) :=
  ⟨(finishProcessing_spec env cur _).2.2.1 hh, allCb_current (emits_changeToRequested fun _ _ hm => ⟨hm, rfl⟩)⟩

/-- … and every guard of a round sees that round's pending transition — payload included — as
    `pendingTransition()` -/
theorem C07_guards_see_pending (env : Env) (cur pend : Tr) :
    AllCb (fun _ _ o => o.pending = some pend.canon) (guardRound env cur pend) :=
  Emits.allCb (A := fun m _ _ p => m.flavour = .guard ∧ p = pend)
    (fun m _ _ _ hA _ _ _ => by simp [observe, hA.1, hA.2])
    (emits_guardRound fun m _ hm => ⟨(by cases m <;> first | rfl | cases hm), rfl⟩)

/-- **no cross-talk**: a payload-free request exposes none, whatever payload the previous request or
    the previous applied transition carried -/
theorem C07_no_cross_talk (env : Env) (sid d : Nat) (s : St) :
    (applyAction env sid (.changeTo d) s).1.core.request.payload = none := rfl

end FFSM2
