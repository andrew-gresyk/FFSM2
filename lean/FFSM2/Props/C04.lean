import FFSM2.Lemmas.Steps
/-!
# C04 — Request processing terminates within the substitution limit

The loop header (`for (Long i = START; i < / <= SUBSTITUTION_LIMIT && request; ++i)`) is translated
from the C++ source on every run (`Gen.substLoopStart`, `Gen.substLoopInclusive`): if the header
changes, `C04_loop_form` is re-checked against the new form.
-/
namespace FFSM2
open Step

/-- the translated loop header allows exactly `L` iterations and terminates in `uint8_t` arithmetic
    for every limit the type can express -/
theorem C04_loop_form (L : Nat) (hL : L ≤ 255) : substFuel L = L ∧ substLoopTerminates L = true := by
  simp [substFuel, substLoopTerminates, Gen.substLoopInclusive, Gen.substLoopStart]

/-- **round bound**: one processing point evaluates at most `L` rounds of guards, for every `L`,
    every machine size and every guard behaviour (including guards that redirect forever) -/
theorem C04_round_bound (env : Env) (hL : env.cfg.L ≤ 255) (s : St) :
    (processRounds env s).length ≤ env.cfg.L := by
  have := (processRequest_spec env s).1
  rwa [(C04_loop_form env.cfg.L hL).1] at this

/-- activation: one evaluation of the initial state's entry guards plus at most `L` redirections -/
theorem C04_activation_bound (env : Env) (hL : env.cfg.L ≤ 255) (cur : Tr) (s : St) :
    (substRounds (entryGuardRound env) (substFuel env.cfg.L) cur s).length ≤ env.cfg.L := by
  have := substRounds_length (entryGuardRound env) (substFuel env.cfg.L) cur s
  rwa [(C04_loop_form env.cfg.L hL).1] at this

/-- **state at the limit**: however the loop ended, the call leaves exactly one outcome — the active
    state is unchanged, or it is the destination of a request that passed its guards -/
theorem C04_limit_state (env : Env) (s : St) :
    (processRequest env s).1.core.active = s.core.active ∨
    ∃ r ∈ processRounds env s, r.2 = false ∧ (processRequest env s).1.core.active = r.1.dest := by
  have hspec := processRequest_spec env s
  cases hv : (survivor {} (processRounds env s)).valid
  · exact .inl (hspec.2.2.2.1 hv).1
  · obtain ⟨r, hr, hr2, e⟩ := survivor_of_valid hv
    exact .inr ⟨r, hr, hr2, by rw [(hspec.2.2.2.2 hv).1, e]⟩

/-- **the leftover request is never applied blindly**: the only place a destination is entered is
    `applySurvivor` of a guard survivor; a request still outstanding when the loop stops stays in
    `core.request` untouched by the rest of the call (`applySurvivor` / `finishProcessing` do not read
    it), so it can only take effect through a later round of guards -/
theorem C04_leftover_guarded (env : Env) (cur : Tr) (s : St) :
    (finishProcessing env cur s).1.core.request = s.core.request ∧
    (cur.valid = false → (applySurvivor env cur s).1.core.request = s.core.request) := by
  refine ⟨rfl, fun h => ?_⟩
  rw [(applySurvivor_spec env cur s).1 h]

/-- non-vacuity / limit reached: two states whose entry guards redirect to each other forever, L = 3:
    exactly 3 rounds are evaluated and the call ends in a guard survivor -/
example :
    let cfg : Cfg := { n := 2, L := 3, cap := 2 }
    let beh : Beh := fun k => if k.method = .entryGuard then [.changeTo (1 - k.sid)] else []
    let env : Env := ⟨cfg, beh, 0, 1⟩
    let s0 : St := { core := { (initCore cfg false) with active := 0, request := ⟨255, 1, none⟩ } }
    (processRounds env s0).length = 3 ∧ (processRequest env s0).1.core.active = 1 ∧
      (processRequest env s0).1.core.request.valid = true := by
  decide +kernel

end FFSM2
